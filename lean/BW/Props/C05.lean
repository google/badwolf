/-
C05 — Printed nodes, predicates, literals, triples, graphs parse back to equal values.

Model: BW/Model/Text.lean — the structure of the text forms (which characters separate the parts,
where the parsers cut); the leaf codecs of the Go standard library (`%q` / strconv.Unquote,
RFC3339Nano, `%v` of a float64 / ParseFloat) are parameters with the laws `LeafLaws` / `LeafLaws2`
(un-quoting undoes quoting; parsing a formatted time / float gives it back; formatted times, floats and
quoted white-space-free IDs contain no quote resp. no white space).
PROVED, for every value of the documented domain and every leaf codec satisfying the laws:
  * `node_round_trip`      — parse (print n) = n (type a '/'-path without '<', ID without '<' '>');
  * `predicate_round_trip` — for every ID whatsoever (quotes, brackets, backslashes, the separator
    itself: the parser cuts at the LAST `"@[`) and every anchor the format can write (`PredOK`);
  * `literal_round_trip`   — bool, int64 (the full range, digit by digit), float64 (through the leaf
    law), text (any bytes, the separator `"^^type:` included: cut at the LAST occurrence), blob (any
    bytes, through the decimal byte list);
  * `object_round_trip`    — nodes, literals and predicate-valued objects through `ParseObject`'s
    node → literal → predicate cascade (a printed predicate is never mistaken for a literal);
  * `triple_round_trip`    — subject, predicate, object separated by tabs and found again by the
    `>\s+"` and `]\s+[/"]` splits, for subjects without white space and any predicate ID (`QuoteScans`);
  * `graph_round_trip`     — `ReadIntoGraph (WriteGraph ts)` loads exactly `ts`, in order, reports
    `|ts|` and no error — PROVIDED no printed triple contains a line feed (`LineOK.noLF`): this
    hypothesis is exactly the known finding D06 (a text literal with a line feed), whose witness is
    re-run on every check.  `LineOK` has three more fields, none derived from `triple_round_trip`.
ASSUMED: the leaf laws (Go's standard library is trusted; every use is cross-checked through the oracle
tables of the correspondence runs).
-/
import BW.Proofs.Text

namespace BW.Props.C05
open BW.Model BW.Model.Text BW.Proofs.Text

theorem node_round_trip (n : Node) (h : NodeOK n) : parseNode (printNode n) = some n :=
  parseNode_printNode n h

/-- A predicate prints to text that parses back to it — when its anchor is one the format can write (`PredOK`: for Go's
    RFC 3339, the years 0..9999 in the anchor's own zone: `9999-12-31T23:59:59.999999999Z` seen from `+01:00` prints
    as `10000-01-01T00:59:59.999999999+01:00`, which `time.Parse` refuses: the real code fails there — a limit of the
    text format, recorded in DESIGN.md). -/
theorem predicate_round_trip (L : Leaf) (hL : LeafLaws L) (p : Pred) (hp : PredOK L p) : parsePred L (printPred L p) = some p :=
  parsePred_printPred L hL p hp

theorem literal_round_trip_bool (L : Leaf) (b : Bool) : parseLit L (printLit L (.bool b)) = some (.bool b) :=
  parseLit_printLit_bool L b

theorem literal_round_trip_int (L : Leaf) (i : Int) (h : IsI64 i) : parseLit L (printLit L (.int i)) = some (.int i) :=
  parseLit_printLit_int L i h

/-- float64: for the bit patterns a literal holds (`floatOK`: every number and one NaN — every NaN prints as `NaN`, and
    since c010ae5 `Build` keeps one of them; before, a literal built from another NaN came back with other bits). -/
theorem literal_round_trip_float (L : Leaf) (hL : LeafLaws L) (bits : Nat) (hb : L.floatOK bits = true) :
    parseLit L (printLit L (.float bits)) = some (.float bits) :=
  parseLit_printLit_float L hL bits hb

theorem literal_round_trip_text (L : Leaf) (t : Bytes) : parseLit L (printLit L (.text t)) = some (.text t) :=
  parseLit_printLit_text L t

theorem literal_round_trip_blob (L : Leaf) (bs : Bytes) : parseLit L (printLit L (.blob bs)) = some (.blob bs) :=
  parseLit_printLit_blob L bs

/-- Every kind at once (`LitOK`: an int in the int64 range, a float of a bit pattern a literal holds). -/
theorem literal_round_trip (L : Leaf) (hL : LeafLaws L) (l : Lit) (h : LitOK L l) : parseLit L (printLit L l) = some l :=
  parseLit_printLit L hL l h

theorem int64_text_round_trip (i : Int) (h : IsI64 i) : parseInt64 (fmtInt i) = some i :=
  parseInt64_fmtInt i h

/-- Nodes, literals and predicates as objects: `ParseObject` gives back the same kind and value. -/
theorem object_round_trip (L : Leaf) (hL : LeafLaws L) (o : Obj) (h : ObjOK L o) : parseObject L (printObj L o) = some o :=
  parseObject_printObj L hL o h

/-- A whole triple — whatever its predicate's ID holds (white space, `] /`, quotes): the object is looked for past the
    quoted ID (`scanQuoted`; before the fix 6b37d2b the splitter matched `] /` INSIDE the quoted ID `"x] /y"`).
    `QuoteScans`: scanning the printed ID, a backslash taking the next byte with it,
    stops at its closing quote — a property of `%q`, evaluated on Go by `bwh leaflaws`. -/
theorem triple_round_trip (L : Leaf) (hL : LeafLaws2 L) (t : Triple)
    (hs : NodeOK t.s) (hsty : noSpace t.s.ty) (hsid : noSpace t.s.id) (hq : QuoteScans L t.p.id) (hpo : PredOK L t.p) (ho : ObjOK L t.o) :
    parseTriple L (printTriple L t) = some t := by
  obtain ⟨s, p, o⟩ := t
  dsimp only at hs hsty hsid hq hpo ho
  obtain ⟨qb, A, hQ, hP, hAns⟩ := printPred_parts L hL p
  obtain ⟨oh, orest, hO, hoh, holast⟩ := printObj_ends L hL.toLeafLaws o ho
  have hsns : noSpace (s.ty ++ [lt] ++ s.id) :=
    List.forall_mem_append.mpr ⟨List.forall_mem_append.mpr ⟨hsty, by decide⟩, hsid⟩
  have hraw : printTriple L ⟨s, p, o⟩ =
      (s.ty ++ [lt] ++ s.id) ++ gt :: tab :: dq :: (qb ++ dq :: (A ++ rb :: tab :: oh :: orest)) := by
    simp [printTriple, printNode, hP, hO]
  have htrim : trim (printTriple L ⟨s, p, o⟩) = printTriple L ⟨s, p, o⟩ := by
    refine trim_id _ ?_ ?_
    · rw [printTriple, List.append_assoc, List.append_assoc, List.append_assoc, List.head?_append, printNode_head? hs.ty]
      rintro _ ⟨⟩; decide
    · rwa [printTriple, List.getLast?_append, hO, List.getLast?_cons, Option.some_or, ← List.getLast?_cons]
  rw [parseTriple, parseTripleWith_cut _ L _ _ qb (dq :: A) orest oh (htrim.trans hraw) hsns (fun _ => hq qb hQ _) hAns hoh]
  rw [show s.ty ++ [lt] ++ s.id ++ [gt] = printNode s from rfl, List.cons_append, ← hP, ← hO, node_round_trip s hs,
    predicate_round_trip L hL.toLeafLaws p hpo, ← parseObject, object_round_trip L hL.toLeafLaws o ho]

/-- Writing a graph as text and reading the text back loads exactly the triples written, in order,
    and reports their number, with no error — provided no printed triple contains a line feed (`LineOK`). -/
theorem graph_round_trip (L : Leaf) (ts : List Triple) (h : ∀ t ∈ ts, LineOK L t) :
    readLines L (splitLines (writeLines L ts)) = (ts, ts.length, false) := by
  rw [splitLines_writeLines L ts h, readLines_append_blank]
  induction ts with
  | nil => rfl
  | cons t ts ih =>
    have ht := h t List.mem_cons_self
    rw [List.map_cons, readLines, if_neg (by simp [ht.notBlank]), ht.roundTrip, ih fun x hx => h x (List.mem_cons_of_mem _ hx)]
    rfl

/-- Printing again gives the same text (a consequence of the round trips: the parsed value IS the value). -/
theorem predicate_print_stable (L : Leaf) (hL : LeafLaws L) (p : Pred) (hp : PredOK L p) :
    (parsePred L (printPred L p)).map (printPred L) = some (printPred L p) := by
  rw [predicate_round_trip L hL p hp]; rfl

theorem triple_print_stable (L : Leaf) (hL : LeafLaws2 L) (t : Triple)
    (hs : NodeOK t.s) (hsty : noSpace t.s.ty) (hsid : noSpace t.s.id) (hq : QuoteScans L t.p.id) (hpo : PredOK L t.p) (ho : ObjOK L t.o) :
    (parseTriple L (printTriple L t)).map (printTriple L) = some (printTriple L t) := by
  rw [triple_round_trip L hL t hs hsty hsid hq hpo ho]; rfl

/-! Non-vacuity: the laws are satisfiable (a toy codec meets all of them), a concrete triple meets the
    hypotheses of `triple_round_trip`, and concrete instances of the integer codec. -/

def encI (i : Int) : Nat := if i < 0 then 2 * i.natAbs - 1 else 2 * i.toNat
def decI (n : Nat) : Int := if n % 2 = 1 then -(((n + 1) / 2 : Nat) : Int) else ((n / 2 : Nat) : Int)

theorem decI_encI (i : Int) : decI (encI i) = i := by
  unfold decI encI
  split <;> split <;> omega

/-- A toy leaf codec that satisfies every law. -/
def toyLeaf : Leaf where
  quote := fun i => [dq] ++ i ++ [dq]
  unquote := fun s => some ((s.drop 1).dropLast)
  fmtTime := fun t => List.replicate (encI t.nanos) 49 ++ [48] ++ List.replicate (encI t.off) 49
  parseTime := fun s => some ⟨decI (s.takeWhile (· == 49)).length, decI (s.drop ((s.takeWhile (· == 49)).length + 1)).length⟩
  fmtFloat := fun b => List.replicate b 49
  parseFloat := fun s => some s.length

theorem toyLeaf_laws : LeafLaws2 toyLeaf where
  unq_quote := by intro i; simp [toyLeaf]
  quote_shape := by intro i; exact ⟨i, by simp [toyLeaf]⟩
  time_parsed_ok := by intro s t _; rfl
  time_round := by
    intro t _
    simp only [toyLeaf]
    rw [List.append_assoc, List.singleton_append, (Proofs.Lists.takeWhile_stop (post := 48 :: _) (fun _ h => beq_iff_eq.mpr (List.eq_of_mem_replicate h)) (by rintro _ ⟨⟩; decide)).1, List.drop_length_add_append,
      List.drop_one, List.tail_cons]
    simp only [List.length_replicate, decI_encI]
  time_noDq := by
    intro t hm
    simp only [toyLeaf, List.mem_append, List.mem_replicate, List.mem_singleton] at hm
    rcases hm with (⟨_, h⟩ | h) | ⟨_, h⟩ <;> revert h <;> decide
  time_nonempty := by intro t; simp [toyLeaf]
  float_round := by intro b _; simp [toyLeaf]
  float_parsed_ok := by intro s b _; rfl
  float_noDq := by
    intro b hm
    simp only [toyLeaf, List.mem_replicate] at hm
    exact absurd hm.2 (by decide)
  quote_noSpace := by
    intro i hi c hc
    simp only [toyLeaf, List.mem_append, List.mem_singleton] at hc
    rcases hc with (rfl | hc) | rfl
    · decide
    · exact hi c hc
    · decide
  time_noSpace := by
    intro t c hc
    simp only [toyLeaf, List.mem_append, List.mem_replicate, List.mem_singleton] at hc
    rcases hc with (⟨_, rfl⟩ | rfl) | ⟨_, rfl⟩ <;> decide

/-- The predicate's ID is `x] /y`: the ID inside which the splitter cut before 6b37d2b. -/
def exTriple : Triple := ⟨⟨[47, 117], [97]⟩, .tmp [120, 93, 32, 47, 121] ⟨5, 3600⟩, .lit (.text [32, 93, 32, 47])⟩
example : parseTriple toyLeaf (printTriple toyLeaf exTriple) = some exTriple :=
  triple_round_trip toyLeaf toyLeaf_laws exTriple ⟨by decide, by decide, by decide⟩ (by intro c hc; revert c; decide)
    (by intro c hc; revert c; decide)
    (by
      intro qb hqb rest
      have : qb = [120, 93, 32, 47, 121] := by
        have h' : ([120, 93, 32, 47, 121] : Bytes) ++ [dq] = qb ++ [dq] := by
          simpa [toyLeaf, exTriple, Pred.id] using hqb
        exact (List.append_cancel_right h').symm
      subst this
      have e : scanQuoted ((34 : UInt8) :: rest) = 0 := by rw [scanQuoted.eq_def]; rfl
      simp [scanQuoted, dq, e])
    rfl trivial
example : parseNode (printNode ⟨[47, 117], [97, 32, 98]⟩) = some ⟨[47, 117], [97, 32, 98]⟩ := by decide
example : parseInt64 (fmtInt (-9223372036854775808)) = some (-9223372036854775808) := by
  exact parseInt64_fmtInt _ (by constructor <;> decide)
example : IsI64 9223372036854775807 := by constructor <;> decide

/-- What `node.NewType` accepts holds no angle bracket (fix d18ea1b): `NodeOK.tyNoLt` is true of every node that can be built. -/
theorem accepted_node_type_has_no_angle_bracket (t : Bytes) (h : validType t = true) : lt ∉ t ∧ gt ∉ t :=
  validType_noAngle h

/-- A node whose type and ID the constructors accept round-trips: nothing else is asked of it. -/
theorem constructed_node_round_trips (n : Node) (hty : validType n.ty = true) (hid : validID n.id = true) :
    parseNode (printNode n) = some n :=
  node_round_trip n ⟨hty, (accepted_node_type_has_no_angle_bracket n.ty hty).1, hid⟩

end BW.Props.C05

#print axioms BW.Props.C05.node_round_trip
#print axioms BW.Props.C05.predicate_round_trip
#print axioms BW.Props.C05.literal_round_trip_bool
#print axioms BW.Props.C05.literal_round_trip_int
#print axioms BW.Props.C05.literal_round_trip_float
#print axioms BW.Props.C05.literal_round_trip_text
#print axioms BW.Props.C05.literal_round_trip_blob
#print axioms BW.Props.C05.literal_round_trip
#print axioms BW.Props.C05.int64_text_round_trip
#print axioms BW.Props.C05.object_round_trip
#print axioms BW.Props.C05.triple_round_trip
#print axioms BW.Props.C05.graph_round_trip
#print axioms BW.Props.C05.triple_print_stable
#print axioms BW.Props.C05.predicate_print_stable
#print axioms BW.Props.C05.toyLeaf_laws
#print axioms BW.Props.C05.accepted_node_type_has_no_angle_bracket
#print axioms BW.Props.C05.constructed_node_round_trips
