/-
C15 — Text parsers return a well-formed value or an error for every input string.  (partial)

The parsers of the model (BW/Model/Text.lean) are total functions into `Option`: on every byte
string they return a value or nothing — that part of the property is the *shape* of the model and is
carried over to the code only by the correspondence (every text is parsed by the Go code under
`recover` and by the model; a panic, a nil value without an error, or a different verdict is reported).
PROVED on the model:
  * `reader_loads_prefix`, `reader_count_is_loaded` — the graph reader loads exactly the triples of the non-blank
    lines before the first malformed one, reports that count, and reports an error iff some non-blank line is malformed;
  * `accepted_node_is_well_formed` — what the node parser accepts has a valid type and a valid, non-empty ID (no
    "empty value without error"); `short_texts_never_accepted` — it rejects texts shorter than two bytes (on which
    `node.Parse` panicked: "", "_");
  * `accepted_*_is_stable` — what the node, predicate, literal or object parser accepts prints to text it accepts
    again as the same value (it meets the premises of C05's round trip).  Not for triples: an accepted triple need
    not meet the hypotheses of `triple_round_trip`; their stability is carried by the correspondence alone.
NOT provable on a model: absence of Go panics (index/slice out of range) — this is exactly what the
exhaustive short strings over the delimiter alphabet, the mutations and the random strings of the
`text` runs are for.
-/
import BW.Proofs.Text

namespace BW.Props.C15
open BW.Model BW.Model.Text BW.Proofs.Text

theorem reader_loads_prefix (L : Leaf) (ls : List Bytes) :
    (readLines L ls).1 = ((nonblank ls).takeWhile fun l => (parseTriple L l).isSome).filterMap (parseTriple L) ∧
    (readLines L ls).2.1 = ((nonblank ls).takeWhile fun l => (parseTriple L l).isSome).length ∧
    (readLines L ls).2.2 = (nonblank ls).any fun l => (parseTriple L l).isNone := by
  induction ls with
  | nil => simp [readLines, nonblank]
  | cons l ls ih =>
    rw [readLines, nonblank, List.filter_cons, ← nonblank]
    split
    · simp [*]
    · cases hp : parseTriple L l with
      | none => simp [*]
      | some t => simp [*]

theorem reader_count_is_loaded (L : Leaf) (ls : List Bytes) : (readLines L ls).2.1 = (readLines L ls).1.length := by
  induction ls with
  | nil => simp [readLines]
  | cons l ls ih =>
    unfold readLines
    split
    · exact ih
    · split
      · rfl
      · simp [ih]

theorem accepted_node_is_well_formed (s : Bytes) (n : Node) (h : parseNode s = some n) :
    validID n.id = true ∧ (n.ty = [slash, underscore] ∨ validType n.ty = true) :=
  have ok := parseNode_ok s n h
  ⟨ok.id, .inr ok.ty⟩

theorem short_texts_never_accepted (s : Bytes) (h : (trim s).length < 2) : parseNode s = none := by
  unfold parseNode
  simp [h]

/-! ### Whatever they accept prints to text that they accept again as an equal value -/

theorem accepted_node_is_stable (s : Bytes) (n : Node) (h : parseNode s = some n) : parseNode (printNode n) = some n :=
  parseNode_printNode n (parseNode_ok s n h)

theorem accepted_predicate_is_stable (L : Leaf) (hL : LeafLaws L) (s : Bytes) (p : Pred) (h : parsePred L s = some p) :
    parsePred L (printPred L p) = some p := parsePred_printPred L hL p (parsePred_ok L hL s p h)

theorem accepted_literal_is_stable (L : Leaf) (hL : LeafLaws L) (s : Bytes) (l : Lit) (h : parseLit L s = some l) :
    parseLit L (printLit L l) = some l := parseLit_printLit L hL l (parseLit_ok L hL s l h)

theorem accepted_object_is_stable (L : Leaf) (hL : LeafLaws L) (s : Bytes) (o : Obj) (h : parseObject L s = some o) :
    parseObject L (printObj L o) = some o := parseObject_printObj L hL o (parseObject_ok L hL s o h)

/-! Non-vacuity: the reader stops at the malformed second line and reports one triple. -/
def idLeaf : Leaf where
  quote := fun i => [dq] ++ i ++ [dq]
  unquote := fun s => some ((s.drop 1).dropLast)
  fmtTime := fun _ => []
  parseTime := fun _ => none
  fmtFloat := fun _ => []
  parseFloat := fun _ => none
def line1 : Bytes := [47, 117, 60, 97, 62, 9, 34, 112, 34, 64, 91, 93, 9, 47, 117, 60, 98, 62]   -- /u<a>	"p"@[]	/u<b>
example : (readLines idLeaf [line1, [103], line1]).2 = (1, true) := by decide

end BW.Props.C15

#print axioms BW.Props.C15.reader_loads_prefix
#print axioms BW.Props.C15.reader_count_is_loaded
#print axioms BW.Props.C15.accepted_node_is_well_formed
#print axioms BW.Props.C15.short_texts_never_accepted
#print axioms BW.Props.C15.accepted_node_is_stable
#print axioms BW.Props.C15.accepted_predicate_is_stable
#print axioms BW.Props.C15.accepted_literal_is_stable
#print axioms BW.Props.C15.accepted_object_is_stable
