/-
C14 — Query results depend only on data and query meaning, not on order or scheduling.

The reference semantics (`BW.Spec.Query`) and the planner model (`BW.Model.Query`) are *functions* of
the statement and the stored triples: they have no channel size, bulk size, processor count or clock
as an argument, so "the same answer on every run and configuration" is what the correspondence check
establishes of the implementation (every variant of a query is run on the real engine under different
chanSize / bulkSize / GOMAXPROCS and compared with the model and with the other variants).

PROVED here.  Of the reference semantics, for every data set and pattern, as multisets of rows: invariance under
partitioning, renaming, growing data (no OPTIONAL), arrival order under a total ORDER BY, and the order of the clauses
(no OPTIONAL, no predicate bounded by another clause's bindings, whose meaning includes the order); the order of the
SELECT list (`projection_order_invariant`).  Of the planner model, as sets of rows (`planner_…`): partitioning, growing
data and the order of the clauses, read off the reference through `processPattern_spec`, the statement of C03's
`select_pattern_eq_solutions`.
Of scheduling: the goroutines of the per-row join, which the planner model runs as a sequential loop (`specifyAll`),
as a small-step model of their atomic `AddRow` calls; its premise — they share nothing but the locked table — is
regenerated from the source.
-/
import BW.Proofs.Join
import BW.Proofs.Rename
import BW.Proofs.Determinism
import BW.Proofs.QueryPost
import BW.Proofs.ClauseOrder
import BW.Proofs.Planner.Pattern
import BW.Proofs.Par
import BW.Proofs.Projection
import BW.Generated.ParFacts

namespace BW.Props.C14
open BW.Model BW.Spec BW.Proofs.Query BW.Proofs.Rename BW.Proofs.Determinism BW.Proofs.ClauseOrder

/-- The triples a query scans: the contents of the graphs listed in FROM, one after the other. -/
def scanOf (graphs : List (List Triple)) : List Triple := graphs.flatMap id

/-- The same data in one graph or partitioned over several (or listed in another order): the
    multiset of solutions is the same. -/
theorem partition_invariant (gs gs' : List (List Triple)) (glo ghi : Option Int) (cs : List Clause)
    (h : (scanOf gs).Perm (scanOf gs')) :
    (solutions (scanOf gs) glo ghi cs).Perm (solutions (scanOf gs') glo ghi cs) :=
  foldl_perm_scan (stepsBy_joinClause glo ghi) cs h _

/-- … in particular one graph `a ++ b` against the two graphs `a`, `b` (any split), and the projected
    result rows with it. -/
theorem split_in_two (a b : List Triple) (glo ghi : Option Int) (cs : List Clause) (ps : List Proj) :
    ((solutions (scanOf [a ++ b]) glo ghi cs).map (project ps)).Perm ((solutions (scanOf [b, a]) glo ghi cs).map (project ps)) := by
  apply List.Perm.map
  apply partition_invariant
  simp only [scanOf, List.flatMap_cons, List.flatMap_nil, id, List.append_nil]
  exact List.perm_append_comm

/-- A consistent renaming of the bindings renames the keys of the solutions; values, number and order
    of the solutions stay. -/
theorem rename_invariant (ρ : Bytes → Bytes) (h : Renaming ρ) (scan : List Triple) (glo ghi : Option Int) (cs : List Clause) :
    solutions scan glo ghi (cs.map (renClause ρ)) = (solutions scan glo ghi cs).map (renRow ρ) := by
  unfold solutions
  rw [List.foldl_map]
  exact List.foldl_hom (List.map (renRow ρ)) (init := [[]]) fun rows c => joinClause_ren h scan glo ghi rows c

/-- … and the projected rows hold the same cells under the renamed column names. -/
theorem rename_projection (ρ : Bytes → Bytes) (h : Renaming ρ) (scan : List Triple) (glo ghi : Option Int)
    (cs : List Clause) (ps : List Proj) :
    (solutions scan glo ghi (cs.map (renClause ρ))).map (project (ps.map (renProj ρ)))
      = ((solutions scan glo ghi cs).map (project ps)).map (renRow ρ) := by
  rw [rename_invariant ρ h, List.map_map, List.map_map]
  apply List.map_congr_left
  intro r _
  exact project_ren h ps r

/-- The cells of a row are untouched by renaming. -/
theorem rename_keeps_cells (ρ : Bytes → Bytes) (r : Row) : (renRow ρ r).map (·.2) = r.map (·.2) := by
  simp [renRow, List.map_map, Function.comp_def]

/-- Adding triples never removes a solution of a pattern without OPTIONAL. -/
theorem monotone (scan scan' : List Triple) (glo ghi : Option Int) (cs : List Clause)
    (hc : ∀ c ∈ cs, c.optional = false) (hs : ∀ t ∈ scan, t ∈ scan') :
    ∀ r ∈ solutions scan glo ghi cs, r ∈ solutions scan' glo ghi cs :=
  foldl_mono (stepsBy_joinClause glo ghi) cs hc hs _

/-- … with multiplicities: the old result is contained in the new one as a multiset. -/
theorem monotone_multiset (scan scan' : List Triple) (glo ghi : Option Int) (cs : List Clause)
    (hc : ∀ c ∈ cs, c.optional = false) (hs : SubMulti scan scan') :
    SubMulti (solutions scan glo ghi cs) (solutions scan' glo ghi cs) :=
  let ⟨l, hl, hsub⟩ := hs
  ⟨solutions l glo ghi cs, foldl_perm_scan (stepsBy_joinClause glo ghi) cs hl _,
    foldl_sublist (stepsBy_joinClause glo ghi) cs hc hsub _⟩

/-- ORDER BY keys that are a total order on the rows of the result (total, transitive and
    antisymmetric on them) determine the sequence: any two arrival orders sort to the same list. -/
theorem total_order_one_sequence (S : Strs) (cfg : List (Bytes × Bool)) (rows rows' : List Row) (hp : rows.Perm rows')
    (hcfg : cfg ≠ [])
    (trans : ∀ a ∈ rows, ∀ b ∈ rows, ∀ c ∈ rows, rowLe S cfg a b = true → rowLe S cfg b c = true → rowLe S cfg a c = true)
    (total : ∀ a ∈ rows, ∀ b ∈ rows, (rowLe S cfg a b || rowLe S cfg b a) = true)
    (anti : ∀ a ∈ rows, ∀ b ∈ rows, rowLe S cfg a b = true → rowLe S cfg b a = true → a = b) :
    sortRows S cfg rows = sortRows S cfg rows' := by
  rw [BW.Proofs.QueryPost.sortRows_eq_mergeSort, BW.Proofs.QueryPost.sortRows_eq_mergeSort]
  exact mergeSort_deterministic _ rows rows' hp trans total anti

/-- A join step does not depend on the order of the rows it receives nor on the order of the scan. -/
theorem clause_order_partial (scan scan' : List Triple) (glo ghi : Option Int) (rows rows' : List Row) (c : Clause)
    (hr : rows.Perm rows') (hs : scan.Perm scan') :
    (joinClause scan glo ghi rows c).Perm (joinClause scan' glo ghi rows' c) :=
  joinBy_perm hs hr

/-- Two join steps commute (up to the order of the rows and the representation of anchors). -/
theorem two_steps_commute (scan : List Triple) (glo ghi : Option Int) (rows : List Row) (c1 c2 : Clause)
    (h1 : Plain c1) (h2 : Plain c2) (hn : AllNodup rows) :
    PermEq (joinClause scan glo ghi (joinClause scan glo ghi rows c1) c2)
           (joinClause scan glo ghi (joinClause scan glo ghi rows c2) c1) :=
  by
  rw [joinClause_plain scan glo ghi rows c1 h1, joinClause_plain scan glo ghi rows c2 h2,
    joinClause_plain scan glo ghi _ c2 h2, joinClause_plain scan glo ghi _ c1 h1]
  exact permEq_iff.mpr (joinWith_swap (matchesOf_nodup scan glo ghi c1) (matchesOf_nodup scan glo ghi c2) hn)

/-- The order in which the clauses are written does not matter: every permutation of the clause list
    gives, for every selection `ks` of bindings, the same multiset of result rows. -/
theorem clause_order_invariant (scan : List Triple) (glo ghi : Option Int) (cs cs' : List Clause) (hp : cs.Perm cs')
    (hc : ∀ c ∈ cs, Plain c) (ks : List Bytes) :
    ((solutions scan glo ghi cs).map (obs ks)).Perm ((solutions scan glo ghi cs').map (obs ks)) :=
  perm_obs ks (solutions_clause_perm scan glo ghi hp hc)

/-! Non-vacuity. -/
def t1 : Triple := ⟨⟨[47, 117], [97]⟩, .imm [112], .node ⟨[47, 117], [98]⟩⟩
def t2 : Triple := ⟨⟨[47, 117], [98]⟩, .imm [112], .lit (.int 3)⟩
def c1 : Clause := { sBinding := [63, 115], p := some (.imm [112]), oBinding := [63, 111] }
def c2 : Clause := { sBinding := [63, 111], p := some (.imm [112]), oBinding := [63, 120] }
example : (solutions (scanOf [[t1, t2]]) none none [c1, c2]).length = 1 := by decide +kernel
example : (solutions (scanOf [[t2], [t1]]) none none [c1, c2]).length = 1 := by decide +kernel
example : Plain c1 ∧ Plain c2 := ⟨⟨rfl, rfl, rfl⟩, ⟨rfl, rfl, rfl⟩⟩
example : (solutions (scanOf [[t1, t2]]) none none [c2, c1]).length = 1 := by decide +kernel
/-- a renaming: prefix every non-empty name with 'z'. -/
def pre (k : Bytes) : Bytes := if k = [] then [] else 122 :: k
theorem pre_renaming : Renaming pre := by
  constructor
  · intro a b h
    unfold pre at h
    by_cases ha : a = [] <;> by_cases hb : b = [] <;> simp_all
  · intro a
    unfold pre
    by_cases ha : a = [] <;> simp [ha]
/-- an instance of `rowLe` under an integer key: 1 ≤ 2. -/
example : rowLe ⟨fun _ => [], fun _ => [], fun _ => []⟩ [([107], false)] [([107], .lit (.int 1))] [([107], .lit (.int 2))] = true := by decide +kernel

/-- Writing the clauses in another order (no OPTIONAL, no bound aliases, `hno`: none on an object's interval either)
    makes the planner pick other strategies — which clause is fetched first, which are joined row by row — and leave
    the same set of rows. -/
theorem planner_clause_order_invariant {gs : List QGraph} {F : Facts} (hF : BW.Proofs.Store.Facts.WF F = true)
    (hg : BW.Proofs.Planner.GraphsOK F gs) (U : BW.Proofs.Planner.Universe gs) (lo : QOpts)
    (c0 : Clause) (cs : List Clause) (c0' : Clause) (cs' : List Clause) (hp : (c0 :: cs).Perm (c0' :: cs'))
    (hpc : ∀ c ∈ c0 :: cs, BW.Proofs.Planner.PatClause U c ∧ BW.Proofs.ClauseOrder.Plain c)
    (hno : ∀ c ∈ c0 :: cs, c.oLowerAlias = [] ∧ c.oUpperAlias = [])
    (h0 : c0.extractsNothing = false) (h0' : c0'.extractsNothing = false)
    (out out' : Tbl) (h : processPattern F gs (c0 :: cs) lo 0 (fun _ => none) = .ok out)
    (h' : processPattern F gs (c0' :: cs') lo 0 (fun _ => none) = .ok out') :
    BW.Proofs.Planner.SetEq out.rows out'.rows := by
  have hpc' : ∀ c ∈ c0' :: cs', BW.Proofs.Planner.PatClause U c ∧ Plain c := fun c hc => hpc c (hp.mem_iff.mpr hc)
  have s1 := BW.Proofs.Planner.processPattern_spec_plain hF hg U (fun c hc => (hpc c hc).1) hno
    (hpc c0 List.mem_cons_self).2.1 h0 h
  have s2 := BW.Proofs.Planner.processPattern_spec_plain hF hg U (fun c hc => (hpc' c hc).1)
    (fun c hc => hno c (hp.mem_iff.mpr hc)) (hpc' c0' List.mem_cons_self).2.1 h0' h'
  exact (s1.trans (.of_den_perm (solutions_clause_perm _ _ _ hp fun c hc => (hpc c hc).2))).trans s2.symm

/-- The same triples spread differently over the graphs listed in FROM: the same set of rows. -/
theorem planner_partition_invariant {gs gs' : List QGraph} {F : Facts} (hF : BW.Proofs.Store.Facts.WF F = true)
    (hg : BW.Proofs.Planner.GraphsOK F gs) (hg' : BW.Proofs.Planner.GraphsOK F gs')
    (U : BW.Proofs.Planner.Universe gs) (U' : BW.Proofs.Planner.Universe gs') (lo : QOpts) (c0 : Clause) (cs : List Clause)
    (hscan : (gs.flatMap BW.Proofs.Planner.scanOf).Perm (gs'.flatMap BW.Proofs.Planner.scanOf))
    (hpc : ∀ c ∈ c0 :: cs, BW.Proofs.Planner.PatClause U c) (hpc' : ∀ c ∈ c0 :: cs, BW.Proofs.Planner.PatClause U' c)
    (hopt : c0.optional = false) (h0 : c0.extractsNothing = false)
    (out out' : Tbl) (h : processPattern F gs (c0 :: cs) lo 0 (fun _ => none) = .ok out)
    (h' : processPattern F gs' (c0 :: cs) lo 0 (fun _ => none) = .ok out') :
    BW.Proofs.Planner.SetEq out.rows out'.rows :=
  ((BW.Proofs.Planner.processPattern_spec hF hg U hpc hopt h0 h).trans (BW.Proofs.Planner.SetEq.of_perm
    (foldl_perm_scan (stepsBy_joinClauseO _ _) (c0 :: cs) hscan _))).trans
    (BW.Proofs.Planner.processPattern_spec hF hg' U' hpc' hopt h0 h').symm

/-- Adding triples never removes a row of the planner's table (patterns without OPTIONAL). -/
theorem planner_monotone {gs gs' : List QGraph} {F : Facts} (hF : BW.Proofs.Store.Facts.WF F = true)
    (hg : BW.Proofs.Planner.GraphsOK F gs) (hg' : BW.Proofs.Planner.GraphsOK F gs')
    (U : BW.Proofs.Planner.Universe gs) (U' : BW.Proofs.Planner.Universe gs') (lo : QOpts) (c0 : Clause) (cs : List Clause)
    (hsub : ∀ t ∈ gs.flatMap BW.Proofs.Planner.scanOf, t ∈ gs'.flatMap BW.Proofs.Planner.scanOf)
    (hpc : ∀ c ∈ c0 :: cs, BW.Proofs.Planner.PatClause U c ∧ c.optional = false)
    (hpc' : ∀ c ∈ c0 :: cs, BW.Proofs.Planner.PatClause U' c) (h0 : c0.extractsNothing = false)
    (out out' : Tbl) (h : processPattern F gs (c0 :: cs) lo 0 (fun _ => none) = .ok out)
    (h' : processPattern F gs' (c0 :: cs) lo 0 (fun _ => none) = .ok out') :
    ∀ r ∈ out.rows, ∃ r' ∈ out'.rows, BW.Proofs.ClauseOrder.RowEq r r' := by
  have hopt := (hpc c0 List.mem_cons_self).2
  have s1 := BW.Proofs.Planner.processPattern_spec hF hg U (fun c hc => (hpc c hc).1) hopt h0 h
  have s2 := BW.Proofs.Planner.processPattern_spec hF hg' U' hpc' hopt h0 h'
  exact (s1.sub.trans fun x hx =>
    ⟨x, foldl_mono (stepsBy_joinClauseO _ _) (c0 :: cs) (fun c hc => (hpc c hc).2) hsub _ x hx, .refl x⟩).trans s2.symm.sub

/-- Writing the SELECT list in another order permutes the columns and nothing else: in the reference every
    column shows the same cell, and (C03, `projection_is_simultaneous`: since 1cfe61b without a condition on
    the alias names) the planner's projection shows the reference's cells. Before 1cfe61b
    `select ?s as ?o, ?o as ?x` and `select ?o as ?x, ?s as ?o` disagreed on `?x`. -/
theorem projection_order_invariant (ps ps' : List Proj) (hp : ps.Perm ps') (hn : (ps.map Proj.out).Nodup)
    (hb : ∀ p ∈ ps, p.binding ≠ []) (r : Row) (hr : ∀ p ∈ ps, r.has p.binding = true) :
    (∀ k, (project ps r).get k = (project ps' r).get k) ∧
    (∀ p ∈ ps, (projectRow ps r).get p.out = (projectRow ps' r).get p.out) := by
  refine ⟨BW.Proofs.Projection.project_perm ps ps' hp hn hb r, ?_⟩
  intro p hpm
  have hn' : (ps'.map Proj.out).Nodup := (hp.map Proj.out).nodup_iff.mp hn
  rw [BW.Proofs.Projection.projection_spec ps r hb hn hr p hpm,
    BW.Proofs.Projection.projection_spec ps' r (fun q hq => hb q (hp.mem_iff.mpr hq)) hn'
      (fun q hq => hr q (hp.mem_iff.mpr hq)) p (hp.mem_iff.mp hpm)]
  exact BW.Proofs.Projection.project_perm ps ps' hp hn hb r p.out

/-- Regenerated obligation (`parfacts`, go/ast): the goroutines `specifyClauseWithTable` starts — one per row —
    touch the shared table only through `Table.AddBindings` and `Table.AddRow`, both of which hold the table's
    mutex for their whole body; they assign to no field of the plan; each works on its own copy of the clause and
    of the row. -/
theorem per_row_goroutines_share_only_the_locked_table :
    BW.Generated.addRowLocked = true ∧ BW.Generated.addBindingsLocked = true ∧
    BW.Generated.perRowTableUses.all (fun m => m == "AddBindings" || m == "AddRow") = true ∧
    BW.Generated.perRowWritesPlan = false ∧ BW.Generated.perRowOwnCopies = true := by decide +kernel

/-- The per-row join does not depend on the schedule: whatever the interleaving of the goroutines' atomic
    `AddRow` calls (small-step model: any thread that still has rows appends its next one), once all are done the
    table holds a permutation of the rows the sequential loop of the planner model adds — the rows for row 1,
    then for row 2, … — after those it held before. (Order is not promised without ORDER BY: C12.) -/
theorem per_row_join_schedule_independent {α : Type} (tbl0 : List α) (threads : List (List α)) (tbl : List α)
    (rest : List (List α)) (h : BW.Proofs.Par.Run (tbl0, threads) (tbl, rest)) (hd : BW.Proofs.Par.Done (tbl, rest)) :
    tbl.Perm (tbl0 ++ threads.flatten) := by
  have := BW.Proofs.Par.run_inv h
  rwa [List.flatten_eq_nil_iff.mpr hd, List.append_nil] at this

/-- … and no schedule gets stuck before every row has been added. -/
theorem per_row_join_progress {α : Type} (tbl : List α) (ls : List (List α)) (h : ¬ BW.Proofs.Par.Done (tbl, ls)) :
    ∃ t, BW.Proofs.Par.Step (tbl, ls) t := by
  obtain ⟨l, hl, hne⟩ : ∃ l ∈ ls, l ≠ [] :=
    Decidable.by_contra fun hc => h fun l hl => Decidable.by_contra fun hne => hc ⟨l, hl, hne⟩
  obtain ⟨pre, post, e⟩ := List.append_of_mem hl
  cases l with
  | nil => exact absurd rfl hne
  | cons x xs => exact ⟨_, e ▸ BW.Proofs.Par.Step.add tbl pre x xs post⟩

/-- Non-vacuity: two threads, the second one's row added first. -/
example : BW.Proofs.Par.Run (([] : List Nat), [[1, 2], [3]]) ([3, 1, 2], [[], []]) :=
  .step (BW.Proofs.Par.Step.add [] [[1, 2]] 3 [] []) <|
  .step (BW.Proofs.Par.Step.add [3] [] 1 [2] [[]]) <|
  .step (BW.Proofs.Par.Step.add [3, 1] [] 2 [] [[]]) <| .refl _

end BW.Props.C14

#print axioms BW.Props.C14.partition_invariant
#print axioms BW.Props.C14.split_in_two
#print axioms BW.Props.C14.rename_invariant
#print axioms BW.Props.C14.rename_projection
#print axioms BW.Props.C14.rename_keeps_cells
#print axioms BW.Props.C14.monotone
#print axioms BW.Props.C14.monotone_multiset
#print axioms BW.Props.C14.total_order_one_sequence
#print axioms BW.Props.C14.clause_order_partial
#print axioms BW.Props.C14.two_steps_commute
#print axioms BW.Props.C14.clause_order_invariant
#print axioms BW.Props.C14.pre_renaming
#print axioms BW.Props.C14.planner_clause_order_invariant
#print axioms BW.Props.C14.planner_partition_invariant
#print axioms BW.Props.C14.planner_monotone
#print axioms BW.Props.C14.per_row_goroutines_share_only_the_locked_table
#print axioms BW.Props.C14.per_row_join_schedule_independent
#print axioms BW.Props.C14.per_row_join_progress
#print axioms BW.Props.C14.projection_order_invariant
