/-
C10 — OPTIONAL is a left outer join: it never removes rows.

Proved for the planner model (every strategy of processClause, the repaired LeftOptionalJoin and
per-row join) and for the reference semantics; the planner's OPTIONAL step leaves the rows of the reference's left
outer join, as a set and under C03's hypotheses (`planner_optional_is_left_outer_join`).  One row of either is
`leftJoin` (`joinClause_by`, `specJoinO_by`): never empty under OPTIONAL, the row with NULLs when no match agrees with
it (`leftJoin_optional_ne_nil`, `leftJoin_nomatch`).  The tie to the code is the `query` correspondence (mode
optional).
-/
import BW.Proofs.Query
import BW.Proofs.Planner.Pattern

namespace BW.Props.C10
open BW.Model BW.Spec BW.Proofs.Query
open BW.Proofs.Planner (leftJoin_forall leftJoin_nomatch leftJoin_optional_ne_nil)

/-- Planner model: processing an OPTIONAL clause — whatever strategy applies: fully specified,
    binding nothing, sharing no binding with the table, or sharing some — keeps every row (extended),
    and never makes the pattern unresolvable. -/
theorem optional_never_drops (F : Facts) (gs : List QGraph) (tbl : Tbl) (c : Clause) (lo : QOpts) (lim : Int)
    (t : Tbl) (u : Bool) (hc : c.optional = true) (h : processClause F gs tbl c lo lim = .ok (t, u)) :
    u = false ∧ ∀ r ∈ tbl.rows, ∃ r' ∈ t.rows, Extends r' r := by
  have self : ∀ r ∈ tbl.rows, ∃ r' ∈ tbl.rows, Extends r' r := fun r hr => ⟨r, hr, .refl r⟩
  rcases processClause_inv h with ⟨_, _, _, _, _, _, _, rfl, hu⟩ | ⟨_, rfl, hu⟩ | ⟨_, _, rfl, fetched, _, hop⟩ |
    ⟨_, _, rfl, out, hsa, rfl⟩
  · exact ⟨by rw [hu, hc]; rfl, self⟩
  · exact ⟨hu.elim (·.2) fun h' => (by rw [hc] at h'; cases h'.1), self⟩
  · refine ⟨rfl, ?_⟩
    rw [hc] at hop
    split at hop
    · exact leftOptional_keeps tbl _ _ _ hop
    · unfold Tbl.append at hop
      split at hop
      · cases hop
      · cases hop
        exact fun r hr => ⟨r, List.mem_append_left _ hr, .refl r⟩
  · refine ⟨rfl, fun r hr => ?_⟩
    obtain ⟨r', hr', he⟩ := specifyAll_optional F gs c lo lim hc tbl.rows out hsa r hr
    refine ⟨r', ?_, he⟩
    split <;> exact hr'

/-- Planner model: a row joined with an OPTIONAL clause appears at least once; when no fetched row
    agrees with it, exactly once with the clause's new bindings NULL. -/
theorem optional_row_kept (r : Row) (bs : List Bytes) (fetched : List Row) :
    joinRow r true bs fetched ≠ [] ∧ ∀ r' ∈ joinRow r true bs fetched, Extends r' r :=
  joinRow_optional r bs fetched

theorem optional_row_null_when_no_match (r : Row) (bs : List Bytes) (fetched : List Row)
    (h : fetched.filter (compatibleRows r) = []) :
    joinRow r true bs fetched = [r.merge ((bs.filter (fun k => !r.has k)).map fun k => (k, Cell.null))] := by
  simp [joinRow, h]

theorem optional_row_once_per_match (r : Row) (bs : List Bytes) (fetched : List Row)
    (h : fetched.filter (compatibleRows r) ≠ []) :
    joinRow r true bs fetched = (fetched.filter (compatibleRows r)).map fun nr => r.merge nr := by
  cases hf : fetched.filter (compatibleRows r) with
  | nil => exact absurd hf h
  | cons x xs => simp [joinRow, hf]

/-- The repaired `LeftOptionalJoin` (optional side sharing no binding) keeps every left row. -/
theorem left_optional_join_keeps (t : Tbl) (bs : List Bytes) (rows : List Row) (t' : Tbl)
    (h : t.leftOptional bs rows = .ok t') : ∀ r ∈ t.rows, ∃ r' ∈ t'.rows, Extends r' r :=
  leftOptional_keeps t bs rows t' h

/-- Reference semantics: an OPTIONAL step keeps every row, and (`spec_optional_nomatch`) a row without match
    appears exactly once with the new bindings NULL. -/
theorem spec_optional_keeps (scan : List Triple) (glo ghi : Option Int) (rows : List Row) (c : Clause)
    (hc : c.optional = true) : ∀ r ∈ rows, ∃ r' ∈ joinClause scan glo ghi rows c, Extends r' r := by
  intro r hr
  rw [joinClause_by, hc]
  have ⟨x, hx⟩ := List.exists_mem_of_ne_nil _
    (leftJoin_optional_ne_nil r c.bindings (scan.filterMap (matchClause c (clauseWindow glo ghi c r))))
  exact ⟨x, List.mem_flatMap.mpr ⟨r, hr, hx⟩,
    leftJoin_forall (P := (Extends · r)) (fun m _ => merge_extends r m) (merge_extends r _) x hx⟩

theorem spec_optional_nomatch (scan : List Triple) (glo ghi : Option Int) (r : Row) (c : Clause)
    (hc : c.optional = true)
    (hn : (scan.filterMap (matchClause c (clauseWindow glo ghi c r))).filter (compatible r) = []) :
    joinClause scan glo ghi [r] c = [r.merge ((c.bindings.filter (fun k => !r.has k)).map fun k => (k, Cell.null))] := by
  rw [joinClause_by, hc]
  exact (List.flatMap_singleton _ r).trans (leftJoin_nomatch hn)

/-! Non-vacuity -/
example : joinRow [([63, 97], Cell.null)] true [[63, 98]] [] = [[([63, 97], Cell.null), ([63, 98], Cell.null)]] := by decide +kernel

/-- Whatever strategy `processClause` picks for an OPTIONAL clause (skip of a clause of constants, keep after
    a probe, `LeftOptionalJoin` with a clause sharing no binding, per-row specialisation otherwise), the table
    it leaves is the reference's left outer join of the table with the clause: every row joined with each
    match that agrees with it, or kept once with the clause's new bindings unset when there is none — as a set
    of rows, up to anchor zone (hypotheses as for C03's `select_pattern_eq_solutions`). -/
theorem planner_optional_is_left_outer_join {gs : List QGraph} {F : Facts} (hF : BW.Proofs.Store.Facts.WF F = true)
    (hg : BW.Proofs.Planner.GraphsOK F gs) (U : BW.Proofs.Planner.Universe gs) {tbl tbl' : Tbl} {unres : Bool}
    (ht : BW.Proofs.Planner.TblOK U tbl) (hB : tbl.bindings ≠ []) {c : Clause} {lo : QOpts}
    (hc : BW.Proofs.Planner.PatClause U c) (hopt : c.optional = true) (hfil : lo.filter = none)
    (h : processClause F gs tbl c lo 0 = .ok (tbl', unres)) :
    unres = false ∧
    BW.Proofs.Planner.SetEq tbl'.rows
      (tbl.rows.flatMap (BW.Proofs.Planner.specJoinO (gs.flatMap BW.Proofs.Planner.scanOf) (BW.Proofs.Planner.nl lo.lower)
        (BW.Proofs.Planner.nl lo.upper) c)) := by
  obtain ⟨-, a2, a3, -⟩ := BW.Proofs.Planner.processClause_spec (BW.Proofs.Planner.fetchOK hF hg U) ht hc hfil
    (fun hb => absurd hb hB) h
  have hu : unres = false := (optional_never_drops F gs tbl c lo 0 tbl' unres hopt h).1
  exact ⟨hu, BW.Proofs.Planner.absRows_of_ne hB ▸ BW.Proofs.Planner.absRows_of_ne a2 ▸ a3 hu⟩

end BW.Props.C10

#print axioms BW.Props.C10.optional_never_drops
#print axioms BW.Props.C10.optional_row_kept
#print axioms BW.Props.C10.optional_row_null_when_no_match
#print axioms BW.Props.C10.optional_row_once_per_match
#print axioms BW.Props.C10.left_optional_join_keeps
#print axioms BW.Props.C10.spec_optional_keeps
#print axioms BW.Props.C10.spec_optional_nomatch
#print axioms BW.Props.C10.planner_optional_is_left_outer_join
