/-
C12 — ORDER BY returns a correctly sorted permutation; LIMIT its first n rows.
-/
import BW.Proofs.QueryPost
import BW.Proofs.Determinism
import BW.Proofs.HooksOrder
import BW.Proofs.HooksHead
import BW.Generated.ParFacts

namespace BW.Props.C12
open BW.Model BW.Proofs.QueryPost

/-- ORDER BY returns a permutation of the rows the same query returns without it. -/
theorem order_by_perm (S : Strs) (cfg : List (Bytes × Bool)) (rows : List Row) : (sortRows S cfg rows).Perm rows := by
  rw [sortRows_eq_mergeSort]
  exact List.mergeSort_perm _ _

/-- int64 and float64 keys order numerically, time anchors chronologically, text as text. (Different kinds:
    `compareCells` answers `none`, which `keyOrd` reads as a tie — no theorem here.) -/
theorem key_order_int (S : Strs) (a b : Int) : compareCells S (.lit (.int a)) (.lit (.int b)) = some (compare a b) := compare_int S a b
theorem key_order_time (S : Strs) (a b : Time) : compareCells S (.time a) (.time b) = some (compare a.nanos b.nanos) := compare_time S a b
theorem key_order_text (S : Strs) (a b : Bytes) : compareCells S (.lit (.text a)) (.lit (.text b)) = some (bytesCmp a b) := compare_text S a b
theorem key_order_float (S : Strs) (a b : Nat) :
    compareCells S (.lit (.float a)) (.lit (.float b)) = some (compare (floatKey a) (floatKey b)) := rfl

/-- On rows that hold int64 values under the key the model's comparator is the integer order, and `mergeSort` by
    that order is pairwise sorted. The two are not joined here; what is said of `sortRows` itself is
    `order_by_sorted`. -/
theorem int_key_comparator (S : Strs) (k : Bytes) (a b : Row) (x y : Int)
    (ha : a.get k = some (.lit (.int x))) (hb : b.get k = some (.lit (.int y))) :
    rowLe S [(k, false)] a b = decide (intKey k a ≤ intKey k b) := by
  have hc : compareRows S [(k, false)] a b = compare x y := by
    rw [compareRows_cons, compareRows, Ordering.then_eq]
    simp only [keyOrd, ha, hb, compare_int, Option.getD_some, Bool.false_eq_true, if_false]
  simp only [rowLe, hc, intKey, ha, hb]
  rw [Bool.eq_iff_iff, bne_iff_ne, Int.compare_ne_gt, decide_eq_true_iff]

theorem int_key_sorted (k : Bytes) (rows : List Row) :
    List.Pairwise (fun a b => intKey k a ≤ intKey k b) (rows.mergeSort fun a b => decide (intKey k a ≤ intKey k b)) :=
  List.pairwise_mergeSort (le := fun a b : Row => decide (intKey k a ≤ intKey k b))
    (fun a b c h1 h2 => decide_eq_true (Int.le_trans (of_decide_eq_true h1) (of_decide_eq_true h2)))
    (fun a b => by simp only [Bool.or_eq_true, decide_eq_true_eq]; omega) rows |>.imp of_decide_eq_true

/-- LIMIT n returns the first min(n, N) rows. -/
theorem limit_prefix (n : Int) (rows : List Row) (hn : 0 ≤ n) : limitRows n rows = rows.take (min n.toNat rows.length) :=
  limitRows_prefix n rows

/-- Neither clause changes which rows qualify: the limited, ordered result is a sub-multiset of the
    unordered, unlimited one. -/
theorem clauses_do_not_change_qualification (S : Strs) (cfg : List (Bytes × Bool)) (n : Int) (rows : List Row) (hn : 0 ≤ n) :
    (limitRows n (sortRows S cfg rows)).Sublist (sortRows S cfg rows) ∧ (sortRows S cfg rows).Perm rows := by
  refine ⟨?_, order_by_perm S cfg rows⟩
  rw [limitRows_prefix n]
  exact List.take_sublist _ _

/-- The limit is pushed down to the driver only for a lone clause of three different plain bindings
    without ORDER BY, GROUP BY or HAVING — where it cannot change which rows qualify. -/
theorem pushdown_only_when_harmless (st : Stmt) (h : st.pushedLimit ≠ 0) :
    ∃ c, st.clauses = [c] ∧ c.keepsEveryTriple = true ∧ st.orderBy = [] ∧ st.groupBy = [] ∧ st.hasHaving = false := by
  unfold Stmt.pushedLimit at h
  split at h
  · rename_i c hc
    split at h
    · rename_i hcond
      simp only [Bool.and_eq_true, List.isEmpty_iff, Bool.not_eq_true'] at hcond
      exact ⟨c, hc, hcond.2, hcond.1.2, hcond.1.1.1, hcond.1.1.2⟩
    · exact absurd rfl h
  · exact absurd rfl h

/-- ORDER BY sorts: when the keys compare the rows at hand as a total preorder, every earlier row of the
    result is ≤ every later one under the composite key comparison (ties are not constrained). -/
theorem order_by_sorted (S : Strs) (cfg : List (Bytes × Bool)) (rows : List Row) (hcfg : cfg ≠ [])
    (trans : ∀ a ∈ rows, ∀ b ∈ rows, ∀ c ∈ rows, rowLe S cfg a b = true → rowLe S cfg b c = true → rowLe S cfg a c = true)
    (total : ∀ a ∈ rows, ∀ b ∈ rows, (rowLe S cfg a b || rowLe S cfg b a) = true) :
    (sortRows S cfg rows).Pairwise fun a b => rowLe S cfg a b = true :=
  sortRows_eq_mergeSort S cfg rows ▸ BW.Proofs.Determinism.pairwise_mergeSort_of_mem _ rows trans total

/-- A key written twice in the ORDER BY list (same direction — two directions are rejected) is kept once by
    `orderByBindingsChecker` (`BW.Model.Hooks.orderCheck`): the rewritten list compares any two rows exactly as the
    list that was written, so the sort is the same. -/
theorem repeated_keys_change_nothing (S : Strs) (cfg cfg' : List (Bytes × Bool))
    (h : BW.Model.Hooks.orderCheck cfg = some cfg') (hne : cfg ≠ []) (rows : List Row) :
    (∀ a b, compareRows S cfg a b = compareRows S cfg' a b) ∧ sortRows S cfg rows = sortRows S cfg' rows :=
  by
  open BW.Proofs.HooksOrder in
  obtain ⟨hc, e⟩ := orderCheck_some h
  have hcmp : ∀ a b, compareRows S cfg a b = compareRows S cfg' a b := fun a b => e ▸ compareRows_dedupCfg S a b cfg [] hc
  refine ⟨hcmp, ?_⟩
  rw [sortRows_eq_mergeSort, sortRows_eq_mergeSort]
  congr 1
  funext a b
  unfold rowLe
  rw [hcmp]

/-- Non-vacuity: `?a desc, ?b, ?a desc` is rewritten to `?a desc, ?b`; `?a desc, ?a asc` is rejected. -/
example : BW.Model.Hooks.orderCheck [([63, 97], true), ([63, 98], false), ([63, 97], true)] = some [([63, 97], true), ([63, 98], false)] ∧
    BW.Model.Hooks.orderCheck [([63, 97], true), ([63, 97], false)] = none := by decide +kernel

/-- LIMIT means what it says: the semantic hook (`limitCollection`) turns `LIMIT "n"^^type:int64` with
    `n ≥ 0` into the limit `n`, changing nothing else, and rejects a negative `n`. -/
theorem limit_means_its_token (h : BW.Model.Hooks.Head) (n : Int) :
    BW.Proofs.HooksHead.optRun BW.Model.Hooks.limitStep h [BW.Proofs.HooksHead.tk .limit_, BW.Proofs.HooksHead.intTk n] =
      if n < 0 then none else some { h with limit := some n } :=
  by
  simp only [BW.Proofs.HooksHead.optRun, BW.Model.Hooks.limitStep, BW.Proofs.HooksHead.tk, BW.Proofs.HooksHead.intTk]
  by_cases hn : n < 0 <;> simp [hn]

/-- Regenerated obligation (`parfacts`, go/ast): `queryPlan.Execute` runs its stages in the order the model's
    `postStages` composes them — graph pattern, projection / grouping, ORDER BY, HAVING, LIMIT. -/
theorem stages_as_modelled :
    BW.Generated.executeStages = ["processGraphPattern", "projectAndGroupBy", "orderBy", "having", "limit"] := by decide +kernel

/-- LIMIT n returns the first min(n, N) of the rows HAVING keeps of the sorted table — not of the sorted table: with
    the stages in that order LIMIT cannot change which rows qualify. -/
theorem limit_cuts_what_having_keeps (S : Strs) (cfg : List (Bytes × Bool)) (e : HExpr) (n : Int) (hn : 0 ≤ n) (rows out : List Row)
    (f : Row → Bool) (hf : ∀ r ∈ sortRows S cfg rows, evalH S r e = .ok (f r))
    (h : postStages S cfg (some e) (some n) rows = .ok out) :
    out = ((sortRows S cfg rows).filter f).take (min n.toNat ((sortRows S cfg rows).filter f).length) := by
  unfold postStages at h
  simp only [havingFilter_spec S e _ f hf, Except.map, Except.ok.injEq] at h
  rw [← h, limitRows_prefix n]

/-- Non-vacuity, and why the order matters: of the rows 1, 5, 2, 6 the two first that exceed 3 are 5 and 6; cutting
    first would leave 5 alone. -/
example :
    let row := fun (i : Int) => ([([63, 111], Cell.lit (.int i))] : Row)
    let S : Strs := ⟨fun _ => [], fun _ => [], fun _ => []⟩
    postStages S [] (some (.cmpLit .gt [63, 111] (some (.int 3)))) (some 2) [row 1, row 5, row 2, row 6] = .ok [row 5, row 6] ∧
    havingFilter S (.cmpLit .gt [63, 111] (some (.int 3))) (limitRows 2 [row 1, row 5, row 2, row 6]) = .ok [row 5] :=
  ⟨rfl, rfl⟩

end BW.Props.C12

#print axioms BW.Props.C12.order_by_perm
#print axioms BW.Props.C12.key_order_int
#print axioms BW.Props.C12.key_order_time
#print axioms BW.Props.C12.key_order_text
#print axioms BW.Props.C12.key_order_float
#print axioms BW.Props.C12.int_key_comparator
#print axioms BW.Props.C12.int_key_sorted
#print axioms BW.Props.C12.limit_prefix
#print axioms BW.Props.C12.clauses_do_not_change_qualification
#print axioms BW.Props.C12.pushdown_only_when_harmless
#print axioms BW.Props.C12.order_by_sorted
#print axioms BW.Props.C12.repeated_keys_change_nothing
#print axioms BW.Props.C12.limit_means_its_token
#print axioms BW.Props.C12.stages_as_modelled
#print axioms BW.Props.C12.limit_cuts_what_having_keeps
