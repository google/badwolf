/-
C20 — Storage driver failures surface as errors: never success, hang or leak.

PROVED on the error-flow model (BW/Model/ErrFlow.lean):
  * `error_surfaces`   — in a plan that throws no result away, the statement reports an error exactly
                         when one of the driver calls it made failed (for every composition of `seq` and
                         `par`, every failing set);
  * `dropped_error_is_lost` — with a thrown-away result a failing call goes unreported (D27/D28 shape);
  * `no_error_discarded`   — regenerated obligation: at every place where the planner or Statement.Init
                         calls a driver method, or a planner function that reaches one, the returned error
                         is returned, kept in a variable that is read again, or sent on a channel
                         (`BW.Generated.errSites`, extracted from the source on every run; `sites_found`: the
                         extractor did find the driver calls);
  * `no_lock_is_left_held` — regenerated obligation (`parfacts`): every lock the planner or the result table takes
                         is released on every path;
  * the goroutine life-cycle theorems of C08 (`*_no_goroutine_left`) for the hand-overs a failing read or
    write goes through: a failing lookup still closes its channel (driver contract), the relay loop runs
    to the end, the row builder drains, the CONSTRUCT writer is closed and awaited.
NOT provable on a model: that the Go code at each site really implements `seq`/`par` (e.g. returns the
variable that holds the error — D27 returned another one), bounded time and goroutine accounting at
run time.  Tie: the `faults` runs — for every statement of a generated corpus the driver calls of a
fault-free run are counted, then each call position is failed in turn (before any element, after 1 and
after 3 elements, on writes) through a wrapper around the memory driver; the statement must report an
error, return within the watchdog, and leave no goroutine.  — partial.
-/
import BW.Model.ErrFlow
import BW.Generated.ErrFacts
import BW.Props.C08
import BW.Generated.ParFacts

namespace BW.Props.C20
open BW.Model.ErrFlow BW.Generated

theorem error_surfaces (fails : Nat → Bool) (p : Plan) (h : noDrop p = true) :
    (run fails p).1 = true ↔ ∃ i ∈ (run fails p).2, fails i = true := by
  suffices (run fails p).1 = (run fails p).2.any fails by rw [this, List.any_eq_true]
  induction p with
  | skip => rfl
  | call i => exact (Bool.or_false _).symm
  | seq a b iha ihb =>
    simp only [noDrop, Bool.and_eq_true] at h
    simp only [run]
    split
    · exact iha h.1
    · rename_i hra
      rw [List.any_append, ← iha h.1, ← ihb h.2, Bool.eq_false_iff.mpr hra, Bool.false_or]
  | par a b iha ihb =>
    simp only [noDrop, Bool.and_eq_true] at h
    simp only [run, List.any_append, iha h.1, ihb h.2]
  | drop p _ => cases h

/-- In particular: a failing call that was made is never answered with success. -/
theorem never_success_on_failure (fails : Nat → Bool) (p : Plan) (h : noDrop p = true) (i : Nat)
    (hi : i ∈ (run fails p).2) (hf : fails i = true) : (run fails p).1 = true :=
  (error_surfaces fails p h).mpr ⟨i, hi, hf⟩

theorem dropped_error_is_lost : ∃ fails p, (∃ i ∈ (run fails p).2, fails i = true) ∧ (run fails p).1 = false :=
  ⟨fun _ => true, .drop (.call 0), ⟨0, by simp [run], rfl⟩, by simp [run]⟩

theorem no_error_discarded : (errSites.all fun s => s.handling != .discarded) = true := by decide +kernel

theorem sites_found : 25 ≤ errSites.length ∧ (errSites.any fun s => s.callee == "update") = true ∧
    (errSites.any fun s => s.callee == "p.store.GraphNames") = true := by decide +kernel

/-- Goroutines on the failure paths: re-export of the life-cycle theorems (a failing lookup is a
    producer that gives up and still closes; a failing row builder is a consumer that loses interest
    and still drains). -/
theorem failing_read_leaves_no_goroutine (n cap want : Nat) (s : BW.Model.Conc.PC)
    (h : BW.Model.Conc.Reach BW.Props.C08.driverRelay (BW.Model.Conc.init n cap want) s) :
    BW.Model.Conc.leaked BW.Props.C08.driverRelay s = false :=
  (BW.Props.C08.driver_relay_no_goroutine_left n cap want s h).1

theorem failing_row_builder_leaves_no_goroutine (n cap want : Nat) (s : BW.Model.Conc.PC)
    (h : BW.Model.Conc.Reach BW.Props.C08.relayRows (BW.Model.Conc.init n cap want) s) :
    BW.Model.Conc.leaked BW.Props.C08.relayRows s = false :=
  (BW.Props.C08.relay_rows_no_goroutine_left n cap want s h).1

theorem failing_construct_leaves_no_goroutine (n cap want : Nat) (s : BW.Model.Conc.PC)
    (h : BW.Model.Conc.Reach BW.Props.C08.constructWriter (BW.Model.Conc.init n cap want) s) :
    BW.Model.Conc.leaked BW.Props.C08.constructWriter s = false :=
  (BW.Props.C08.construct_writer_no_goroutine_left n cap want s h).1

/-! Non-vacuity: INSERT into two graphs (Graph then AddTriples per target, in parallel), second write fails. -/
def insertTwo : Plan := .par (.seq (.call 0) (.call 1)) (.seq (.call 2) (.call 3))
example : noDrop insertTwo = true ∧ (run (fun i => i == 3) insertTwo) = (true, [0, 1, 2, 3]) := by decide

/-- Regenerated obligation (`parfacts`, go/ast): every `Lock()` / `RLock()` of the planner and of the result table
    is released on every path — the unlock is deferred in the next statement, or follows in the same block with
    no return in between. (A per-graph write error is appended under a mutex in `update`: a lock left held there
    blocks the second failing writer and with it the statement.) -/
theorem no_lock_is_left_held : BW.Generated.unbalancedLocks = [] := by decide

end BW.Props.C20

#print axioms BW.Props.C20.error_surfaces
#print axioms BW.Props.C20.never_success_on_failure
#print axioms BW.Props.C20.dropped_error_is_lost
#print axioms BW.Props.C20.no_error_discarded
#print axioms BW.Props.C20.sites_found
#print axioms BW.Props.C20.failing_read_leaves_no_goroutine
#print axioms BW.Props.C20.failing_row_builder_leaves_no_goroutine
#print axioms BW.Props.C20.failing_construct_leaves_no_goroutine
#print axioms BW.Props.C20.no_lock_is_left_held
