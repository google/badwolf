/-
C07 — Concurrent use of a store: linearizable, race-free, deadlock-free.  (partial)

What is proved, and about what.  The memory driver protects each graph (and the store's table of
graphs) with one reader/writer lock; `lockfacts` reads the discipline off memory.go on every run.
PROVED:
  * `lock_discipline` (regenerated obligations) — every method that touches an index does so only after
    taking the lock of its receiver; methods that take the read lock write no index; AddTriples holds
    the write lock for the whole batch, RemoveTriples once per triple; no method calls another locking
    method of its receiver or locks any mutex but its receiver's (no nesting: `callsLocking`);
  * `no_lock_cycle` — with one lock at a time nobody waits in a cycle: whenever a thread waits, some
    unfinished thread holds what it waits for and is not itself waiting FOR A LOCK. A look-up, however, also
    waits for its consumer while it holds the read lock; that is the subject of the next item;
  * `draining_consumer_never_halts`, `without_writer_nothing_halts`, `consumer_reading_the_graph_can_halt`,
    `halt_search_sound` (Model/Chan.lean: one graph lock with Go's writer preference, a look-up of n results that
    sends under the read lock, its consumer doing b reads of the same graph per result, one writer) — a consumer
    that only drains never brings the three to a halt, for every n and every schedule; nor does anything halt
    without a writer; but with two results, one read per result and a writer a halt IS reachable (for every n ≥ 2,
    b ≥ 1: `Chan.reading_consumer_halts`; the witness is replayed on the implementation by the `N` lines: known finding D37);
  * `using_the_store_mid_lookup_never_halts`, `nested_locks_can_halt` (Model/Chan2.lean: the store's lock and a graph's) —
    a consumer that uses the store between two results while another goroutine drops the graph never halts anything,
    because every method holds one lock at a time; a `DeleteGraph` that waited for the graph's lock while holding the
    store's would (the `S` lines run this on the implementation);
  * `rw_linearizable`, `rw_real_time` — calls that follow this discipline (one readers-writer lock, taken for the whole
    body: exclusive by updates, shared by look-ups), modelled in small steps (an update is a sequence of micro-writes, a
    look-up a sequence of micro-reads), are linearizable for every number of calls, every batch size and every
    interleaving: what each returned is what it returns when the calls run whole, one at a time, in the order in which
    they obtained the lock, and that order respects real time; `store_batch_is_atomic` instantiates it at the store
    model (AddTriples = one `add1` per triple);
  * `search_sound` — the linearizability search used on recorded histories only answers "linearizable"
    when an order consistent with real time exists in which the sequential specification
    (`BW.Model.Linear.step`: batch adds atomic, removes per triple, whole look-ups) returns exactly the
    recorded results; `partial_batch_is_not_linearizable` shows it rejects a look-up that saw half a batch.
NOT provable on a model: data-race freedom and the memory model of Go, fairness of the runtime's
locks, that the code inside the lock regions is what the sequential models of C01/C02 say (that is
C01's tie).  Tie: `conc` runs — thousands of small concurrent histories recorded on the real driver
and searched for a linearization by the Lean driver; every look-up method on its success and error
paths closes its channel exactly once and leaves the caller's options untouched; a randomized stress
run of 12 goroutines (shared LookupOptions values included) under the Go race detector.
-/
import BW.Proofs.Linear
import BW.Generated.LockFacts
import BW.Proofs.RW
import BW.Model.Store
import BW.Proofs.Chan
import BW.Proofs.Chan2

namespace BW.Props.C07
open BW.Model.Linear BW.Generated

theorem lock_discipline :
    (lockFacts.all fun f => !f.touchesIndexes || (f.lock != .none && f.underLock)) = true ∧
    (lockFacts.all fun f => f.lock != .read || !f.writesIndex) = true ∧
    (lockFacts.all fun f => !f.callsLocking) = true ∧
    (lockFacts.any fun f => f.name == "AddTriples" && f.lock == .write && f.scope == .whole) = true ∧
    (lockFacts.any fun f => f.name == "RemoveTriples" && f.lock == .write && f.scope == .perElement) = true ∧
    (lockFacts.all fun f => f.lock == .none || f.scope != .none) = true := by decide +kernel

/-- The look-ups are all there and all take the read lock for the whole call (so a look-up sees one
    state of the graph, never half a batch). -/
theorem lookups_read_locked :
    (["Objects", "Subjects", "PredicatesForSubject", "PredicatesForObject", "PredicatesForSubjectAndObject",
      "TriplesForSubject", "TriplesForPredicate", "TriplesForObject", "TriplesForSubjectAndPredicate",
      "TriplesForPredicateAndObject", "Triples", "Exist"].all fun n =>
        lockFacts.any fun f => f.name == n && f.lock == .read && f.scope == .whole) = true := by decide +kernel

theorem no_lock_cycle (ts : List ThreadL) (hn : ∀ t ∈ ts, nonNested t) (hw : waitsForHeld ts)
    (t : ThreadL) (ht : t ∈ ts) (l : Nat) (hl : t.waiting = some l) :
    ∃ h ∈ ts, h.finished = false ∧ h.waiting = none :=
  BW.Proofs.Linear.no_lock_cycle ts hn hw t ht l hl

theorem search_sound (f : Nat) (s : State) (pending : List HOp) (h : search f s pending = true) : Lin s pending :=
  BW.Proofs.Linear.search_sound f s pending h

def g : List UInt8 := [63, 103]
def halfBatch : List HOp := [
  ⟨-1, 0, 0, .init, g, [], .set []⟩,
  ⟨0, 1, 4, .add, g, [0, 1], .ok⟩,
  ⟨1, 2, 3, .triples, g, [], .set [0]⟩]
/-- A look-up that returns one of two triples added by one concurrent AddTriples has no linearization. -/
theorem partial_batch_is_not_linearizable : search 4 [] halfBatch = false := by decide

/-- … while seeing both is fine, and half a batch of removes is allowed (per-triple). -/
example : search 4 [] [⟨-1, 0, 0, .init, g, [], .set []⟩, ⟨0, 1, 4, .add, g, [0, 1], .ok⟩, ⟨1, 2, 3, .triples, g, [], .set [0, 1]⟩] = true := by decide
example : search 5 [] [⟨-1, 0, 0, .init, g, [0, 1], .set [0, 1]⟩, ⟨0, 1, 4, .rem1, g, [0], .ok⟩, ⟨0, 1, 4, .rem1, g, [1], .ok⟩,
    ⟨1, 2, 3, .triples, g, [], .set [1]⟩] = true := by decide

/-- Every call that has returned returned what it returns when the calls are executed whole, one at a time,
    in the order in which they obtained the lock; the state the next lock holder sees is the state of that
    sequential execution. For every list of calls (updates of any number of micro-writes, look-ups of any
    number of micro-reads) and every schedule of their small steps. -/
theorem rw_linearizable {σ ρ : Type} (x0 : σ) (ops : List (BW.Model.RW.Op σ ρ)) (sched : List Nat) :
    let s := (BW.Model.RW.start x0 ops).run sched
    (∀ (i : Nat) r, s.ths[i]? = some (.done r) → (i, r) ∈ (BW.Model.RW.seqRun x0 ops s.order).2) ∧
    (BW.Model.RW.seqRun x0 ops s.order).1 = s.abs :=
  BW.Model.RW.linearizable x0 ops sched

/-- The order respects real time: a call that had returned when another had not yet been invoked comes
    before it. -/
theorem rw_real_time {σ ρ : Type} (x0 : σ) (ops : List (BW.Model.RW.Op σ ρ)) (pre post : List Nat) (i j : Nat)
    (r : List ρ) (o : BW.Model.RW.Op σ ρ)
    (hi : ((BW.Model.RW.start x0 ops).run pre).ths[i]? = some (.done r))
    (hj : ((BW.Model.RW.start x0 ops).run pre).ths[j]? = some (.idle o)) :
    ∃ a b, (((BW.Model.RW.start x0 ops).run pre).run post).order = a ++ b ∧ i ∈ a ∧ j ∉ a := by
  have hinv := BW.Model.RW.inv_run pre (BW.Model.RW.inv_start x0 ops)
  obtain ⟨ext, he⟩ := BW.Model.RW.order_grows post ((BW.Model.RW.start x0 ops).run pre)
  exact ⟨_, ext, he.symm, BW.Model.RW.mem_order_of_mem_seqRun (hinv.done i r hi), (hinv.idle j o hj).2⟩

/-- At the store model: `AddTriples` as one micro-write per triple (the loop of memory.go) has, as its
    sequential meaning, the whole batch (`Graph.addAll`) — which is what every other call observes. -/
theorem store_batch_is_atomic (F : BW.Model.Facts) (g : BW.Model.Graph) (ts : List BW.Model.TView) :
    ((BW.Model.RW.Op.write (ρ := Unit) (ts.map fun t g => g.add1 F t)).apply g).1 = g.addAll F ts :=
  List.foldl_map ..

/-- Non-vacuity: a writer of two micro-writes and a reader; the schedule lets the reader try in the middle
    of the batch — it has to wait, and sees the whole batch. -/
def exOps : List (BW.Model.RW.Op Nat Nat) := [.write [(· + 1), (· + 1)], .read [id]]
def resultOf : Option (BW.Model.RW.Th Nat Nat) → Option (List Nat)
  | some (.done r) => some r
  | _ => none
example :
    resultOf (((BW.Model.RW.start 0 exOps).run [0, 1, 0, 0, 1, 1, 0, 0, 1, 1, 1]).ths[1]?) = some [2] ∧
    ((BW.Model.RW.start 0 exOps).run [0, 1, 0, 0, 1, 1, 0, 0, 1, 1, 1]).order = [0, 1] := by decide


open BW.Model.Chan in
theorem draining_consumer_never_halts (n : Nat) (sched : List Tid) :
    (run (start n 0) sched).finished = true ∨ (run (start n 0) sched).stuck = false :=
  never_halts (inv_start n 0) (.inl rfl) sched

open BW.Model.Chan in
/-- No writer: the writer has returned (`w := .done`; so does the driver start an `N` line without writer). -/
theorem without_writer_nothing_halts (n b : Nat) (sched : List Tid) :
    (run ⟨n, b, .idle, .waitRecv, .done⟩ sched).finished = true ∨ (run ⟨n, b, .idle, .waitRecv, .done⟩ sched).stuck = false :=
  never_halts (s := { start n b with w := .done }) (inv_start n b) (.inr rfl) sched  -- `Inv` does not read `w`

open BW.Model.Chan in
/-- The property FAILS on this model (and on the code — D37): two results, a consumer that tests what it received,
    a writer arriving in between. -/
theorem consumer_reading_the_graph_can_halt :
    (run (start 2 1) [.p, .p, .w]).stuck = true ∧ (run (start 2 1) [.p, .p, .w]).finished = false :=
  reading_consumer_halts 0 0

open BW.Model.Chan in
/-- The driver's answer "can-halt" on an `N` line is backed by a schedule. -/
theorem halt_search_sound (fuel : Nat) (s0 : Sys) (h : canHalt fuel [s0] = true) :
    ∃ sched, (run s0 sched).stuck = true ∧ (run s0 sched).finished = false := by
  obtain ⟨s, hs, sched, hr⟩ := canHalt_sound fuel [s0] h
  rw [List.mem_singleton.mp hs] at hr
  exact ⟨sched, hr⟩

/-- The fact the model rests on, regenerated: every look-up holds the read lock for its whole body — sends included. -/
example : (lockFacts.any fun f => f.name == "Triples" && f.lock == .read && f.scope == .whole) = true := by decide +kernel

open BW.Model.Chan2 in
/-- The consumer's use of the store: Graph, GraphNames, NewGraph, DeleteGraph of another graph. That every method holds
    one lock at a time is the third conjunct of `lock_discipline`. -/
theorem using_the_store_mid_lookup_never_halts (n : Nat) (sched : List Tid) :
    (run (start n false) sched).finished = true ∨ (run (start n false) sched).stuck = false :=
  never_halts (s := start n false) nofun rfl sched

open BW.Model.Chan2 in
/-- Why one lock at a time matters: a `DeleteGraph` that waits for the graph's lock while it holds the store's halts
    the three (the look-up waits for its consumer, the consumer for the store, `DeleteGraph` for the look-up). -/
theorem nested_locks_can_halt :
    (run (start 2 true) [.p, .p, .d]).stuck = true ∧ (run (start 2 true) [.p, .p, .d]).finished = false := by decide

end BW.Props.C07

#print axioms BW.Props.C07.lock_discipline
#print axioms BW.Props.C07.lookups_read_locked
#print axioms BW.Props.C07.no_lock_cycle
#print axioms BW.Props.C07.search_sound
#print axioms BW.Props.C07.partial_batch_is_not_linearizable
#print axioms BW.Props.C07.rw_linearizable
#print axioms BW.Props.C07.rw_real_time
#print axioms BW.Props.C07.store_batch_is_atomic
#print axioms BW.Props.C07.draining_consumer_never_halts
#print axioms BW.Props.C07.without_writer_nothing_halts
#print axioms BW.Props.C07.consumer_reading_the_graph_can_halt
#print axioms BW.Props.C07.halt_search_sound
#print axioms BW.Props.C07.using_the_store_mid_lookup_never_halts
#print axioms BW.Props.C07.nested_locks_can_halt
