/-
C06 — Equal UUID exactly when values are equal; UUID defined for every value.

UUID(v) = SHA1(pre v). Assumption H_sha1 (DESIGN.md §6): SHA-1 is injective on the pre-images that
occur, so "same UUID" is "same pre-image". The theorems say where `pre` is injective; the closed
counter-witnesses say where it is not (each replayed on the implementation as a known finding).
-/
import BW.Proofs.UUID

namespace BW.Props.C06
open BW.Model BW.Proofs.UUID

/-- Predicates: same pre-image exactly when identifier, kind and 64-bit instant agree. -/
theorem pre_pred_iff (p q : Pred) :
    prePred p = prePred q ↔
      p.id = q.id ∧ p.anchor.map (fun t => toInt64 t.nanos) = q.anchor.map (fun t => toInt64 t.nanos) :=
  ⟨prePred_inj p q, fun ⟨h1, h2⟩ => prePred_congr p q h1 h2⟩

/-- Predicates whose anchors lie inside the int64-nanosecond range (years 1678–2262) have the same pre-image exactly
    when identifier, kind and instant agree, whatever the zones. -/
theorem pre_pred_inj_in_range (p q : Pred)
    (hp : ∀ t, p.anchor = some t → IsInt64 t.nanos) (hq : ∀ t, q.anchor = some t → IsInt64 t.nanos) :
    prePred p = prePred q ↔ p.id = q.id ∧ p.anchor.map (·.nanos) = q.anchor.map (·.nanos) := by
  rw [pre_pred_iff]
  cases p with
  | imm i => cases q <;> simp [Pred.anchor]
  | tmp i t =>
    cases q with
    | imm j => simp [Pred.anchor]
    | tmp j u =>
      simp only [Pred.anchor, Option.map_some, Option.some.injEq]
      rw [toInt64_of_range _ (hp t rfl), toInt64_of_range _ (hq u rfl)]

/-- An immutable and a temporal predicate never share a UUID. -/
theorem pre_pred_kinds_differ (i j : Bytes) (t : Time) : prePred (.imm i) ≠ prePred (.tmp j t) :=
  prePred_imm_ne_tmp i j t

theorem zone_irrelevant (i : Bytes) (n o₁ o₂ : Int) : prePred (.tmp i ⟨n, o₁⟩) = prePred (.tmp i ⟨n, o₂⟩) :=
  BW.Proofs.UUID.zone_irrelevant i n o₁ o₂

/-- Literals: injective inside each type (int64 over its whole range, floats by bit pattern). -/
theorem pre_lit_inj_within_type (a b : Lit) (h : preLit false a = preLit false b) :
    (∀ x y, a = .bool x → b = .bool y → x = y) ∧
    (∀ x y, a = .int x → b = .int y → IsInt64 x → IsInt64 y → x = y) ∧
    (∀ x y, a = .float x → b = .float y → x < 2 ^ 64 → y < 2 ^ 64 → x = y) ∧
    (∀ x y, a = .text x → b = .text y → x = y) ∧
    (∀ x y, a = .blob x → b = .blob y → x = y) := by
  refine ⟨?_, ?_, ?_, ?_, ?_⟩
  · rintro x y rfl rfl; revert h; cases x <;> cases y <;> decide
  · rintro x y rfl rfl h1 h2; exact varint_pad_inj x y h1 h2 8 (Option.some.inj h)
  · rintro x y rfl rfl h1 h2; exact leBytes_inj 8 x y h1 h2 (Option.some.inj h)
  · rintro x y rfl rfl; exact Option.some.inj h
  · rintro x y rfl rfl; exact Option.some.inj h

/-- The UUID is defined for every object, hence for every triple: the literal is the component that could fail. -/
theorem pre_defined (o : Obj) : (preObj false o).isSome = true := preObj_defined o

/-- Nodes: injective among nodes of equal type and among nodes of equal id. -/
theorem pre_node_inj_partial (a b : Node) (h : preNode a = preNode b) (hc : a.ty = b.ty ∨ a.id = b.id) : a = b :=
  preNode_inj_of_length a b (hc.imp (congrArg _) (congrArg _)) h

/-- Triples: the pre-image is the triple of component UUIDs, so it is injective exactly as far as the
    components are. -/
theorem pre_triple_inj (t u : Triple)
    (hs : preNode t.s = preNode u.s → t.s = u.s)
    (ho : preObj false t.o = preObj false u.o → t.o = u.o)
    (h : (preNode t.s, prePred t.p, preObj false t.o) = (preNode u.s, prePred u.p, preObj false u.o)) :
    t.s = u.s ∧ t.p.id = u.p.id ∧
      t.p.anchor.map (fun x => toInt64 x.nanos) = u.p.anchor.map (fun x => toInt64 x.nanos) ∧ t.o = u.o := by
  injection h with h1 h
  injection h with h2 h3
  exact ⟨hs h1, (prePred_inj _ _ h2).1, (prePred_inj _ _ h2).2, ho h3⟩

/-! #### The property is FALSE of the code in these named ways (closed witnesses; known findings) -/

/-- /a<bc> and /ab<c>: type and id are concatenated without a separator. -/
theorem pre_node_collision :
    preNode ⟨[47, 97], [98, 99]⟩ = preNode ⟨[47, 97, 98], [99]⟩ ∧ (⟨[47, 97], [98, 99]⟩ : Node) ≠ ⟨[47, 97, 98], [99]⟩ :=
  BW.Proofs.UUID.pre_node_collision

/-- "true"^^type:text and "true"^^type:bool: the literal type is not hashed. -/
theorem pre_lit_collision : preLit false (.text [116, 114, 117, 101]) = preLit false (.bool true) := by decide +kernel

theorem pre_lit_collision_numeric :
    preLit false (.int 0) = preLit false (.float 0) ∧ preLit false (.int 0) = preLit false (.blob [0, 0, 0, 0, 0, 0, 0, 0]) := by decide +kernel

/-- /u<a> and "/ua"^^type:text: the kind of an object is not hashed. -/
theorem pre_obj_collision : preObj false (.node ⟨[47, 117], [97]⟩) = preObj false (.lit (.text [47, 117, 97])) := by decide +kernel

/-- Instants 2^64 ns apart: UnixNano wraps. -/
theorem pre_anchor_wrap (i : Bytes) (n o : Int) :
    prePred (.tmp i ⟨n, o⟩) = prePred (.tmp i ⟨n + 18446744073709551616, o⟩) := BW.Proofs.UUID.pre_anchor_wrap i n o

/-- Before the repair of D03 the UUID of an int64 ≥ 2^55 was undefined (panic). -/
theorem pre_int_undefined_before_fix : preLit true (.int 36028797018963968) = none := by decide +kernel  -- 2^55

/-! Non-vacuity -/
example : IsInt64 5 := by unfold IsInt64; omega
example : prePred (.tmp [112] ⟨5, 0⟩) = prePred (.tmp [112] ⟨5, 3600⟩) := rfl

end BW.Props.C06

#print axioms BW.Props.C06.pre_pred_iff
#print axioms BW.Props.C06.pre_pred_inj_in_range
#print axioms BW.Props.C06.pre_pred_kinds_differ
#print axioms BW.Props.C06.zone_irrelevant
#print axioms BW.Props.C06.pre_lit_inj_within_type
#print axioms BW.Props.C06.pre_defined
#print axioms BW.Props.C06.pre_node_inj_partial
#print axioms BW.Props.C06.pre_triple_inj
#print axioms BW.Props.C06.pre_node_collision
#print axioms BW.Props.C06.pre_lit_collision
#print axioms BW.Props.C06.pre_lit_collision_numeric
#print axioms BW.Props.C06.pre_obj_collision
#print axioms BW.Props.C06.pre_anchor_wrap
#print axioms BW.Props.C06.pre_int_undefined_before_fix
