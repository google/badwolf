/-
C01 — A store is a map from graph names to independent sets of triples.

Model: `BW.Model.Store` (memory.go with its seven indexes, driven by the regenerated facts about which
indexes AddTriples/RemoveTriples/look-ups touch).  Spec: `BW.Spec.Store` (names ↦ duplicate-free sets).
For every finite history of operations (`List Op`) whose look-ups meet `Op.ok` (`run_refines` needs that for the
answers only, not for the state or the invariant).
-/
import BW.Proofs.StoreRefine
import BW.Proofs.SetSem
import BW.Generated.MemoryFacts

namespace BW.Props.C01
open BW.Model BW.Spec BW.Proofs.Store BW.Proofs.StoreRefine BW.Proofs.SetSem BW.Generated

/-- Regenerated obligation: what memory.go's AST says about index writes, deletes and reads is consistent (every
    bucket read is written by AddTriples and deleted from by RemoveTriples, keyed by the components the look-up fixes). -/
theorem facts_wf : Facts.WF memoryFacts = true := by decide +kernel

/-- Every reachable state satisfies the index invariant: each secondary-index bucket is exactly the
    projection of the master index. -/
theorem inv_reachable (ops : List Op) (hops : ∀ op ∈ ops, Op.ok op) :
    StoreInv memoryFacts (Store.run memoryFacts [] ops).1 :=
  (run_refines facts_wf (storeInv_nil _) ops).2.2

/-- Refinement: after *every* step of every history the memory store has returned exactly what the
    specification (names ↦ sets; look-ups are filtered scans) returns, and holds the corresponding state. -/
theorem store_refines_spec (ops : List Op) (hops : ∀ op ∈ ops, Op.ok op) :
    (Store.run memoryFacts [] ops).2 = (SStore.run [] ops).2 ∧
    abs (Store.run memoryFacts [] ops).1 = (SStore.run [] ops).1 :=
  let h := run_refines facts_wf (storeInv_nil _) ops
  ⟨h.1 hops, h.2.1⟩

/-- Two op lists that lead the specification to the same state are indistinguishable afterwards:
    the store is a function of the set it holds, not of the history. -/
theorem history_independent (ops₁ ops₂ tail : List Op)
    (h₁ : ∀ op ∈ ops₁ ++ tail, Op.ok op) (h₂ : ∀ op ∈ ops₂ ++ tail, Op.ok op)
    (hs : (SStore.run [] ops₁).1 = (SStore.run [] ops₂).1) :
    (Store.run memoryFacts (Store.run memoryFacts [] ops₁).1 tail).2
      = (Store.run memoryFacts (Store.run memoryFacts [] ops₂).1 tail).2 := by
  have a₁ := (run_refines facts_wf (storeInv_nil _) ops₁).2
  have a₂ := (run_refines facts_wf (storeInv_nil _) ops₂).2
  exact run_out_congr facts_wf a₁.2 a₂.2 (a₁.1.trans (hs.trans a₂.1.symm)) tail
    fun o ho => h₁ o (List.mem_append_right _ ho)

/-! #### The sentences of the property, on the specification the store refines -/

theorem exist_after_add (g : SGraph) (ts : List TView) (k : TKey) :
    (g.addAll ts).has k = (ts.any (·.key == k) || g.has k) := by
  induction ts generalizing g with
  | nil => rfl
  | cons t ts ih =>
    rw [SGraph.addAll, List.foldl_cons, ← SGraph.addAll, ih, has_add, List.any_cons, Bool.or_left_comm, Bool.or_assoc]

theorem exist_after_remove (g : SGraph) (ts : List TView) (k : TKey) :
    (g.remAll ts).has k = (!(ts.any (·.key == k)) && g.has k) := by
  induction ts generalizing g with
  | nil => rfl
  | cons t ts ih =>
    rw [SGraph.remAll, List.foldl_cons, ← SGraph.remAll, ih, has_rem, List.any_cons, Bool.not_or, Bool.and_left_comm,
      Bool.and_assoc]

/-- Each triple at most once: batches of additions and removals keep a graph's identity keys pairwise different, and a
    new graph has none.  For every reachable graph by induction on the history — not stated. -/
theorem at_most_once (g : SGraph) (h : KeysNodup g) (ts us : List TView) :
    KeysNodup ((g.addAll ts).remAll us) := keysNodup_remAll (keysNodup_addAll h ts) us

/-- Re-adding a stored triple succeeds without effect (same elements, each once). -/
theorem readd_noop (g : SGraph) (h : KeysNodup g) (t : TView) (ht : t ∈ g) : (g.add t).Perm g := by
  unfold SGraph.add
  induction g with
  | nil => cases ht
  | cons x g ih =>
    obtain ⟨hx, hg⟩ := List.nodup_cons.mp h
    have hne {y} (hy : y ∈ g) : (y.key != x.key) = true := bne_iff_ne.mpr fun e => hx (e ▸ List.mem_map_of_mem hy)
    rcases List.mem_cons.mp ht with rfl | hmem
    · rw [List.filter_cons, bne_self_eq_false, if_neg Bool.false_ne_true, List.filter_eq_self.mpr fun y hy => hne hy]
    · rw [List.filter_cons, if_pos (bne_comm.trans (hne hmem))]
      exact (List.Perm.swap x t _).trans ((ih hg hmem).cons x)

theorem remove_absent_noop (g : SGraph) (t : TView) (h : g.has t.key = false) : g.rem t = g :=
  List.filter_eq_self.mpr fun x hx => bne_iff_ne.mpr fun e =>
    Bool.eq_false_iff.mp h (has_iff.mpr ⟨x, hx, e⟩)

theorem create_existing_fails_noop (s : SStore) (n : Bytes) (h : (s.get n).isSome = true) :
    s.step (.newGraph n) = (s, .err) := by
  simp [SStore.step, SStore.newGraph, h]

theorem get_missing_fails (s : SStore) (n : Bytes) (h : s.get n = none) :
    s.step (.getGraph n) = (s, .err) := by
  simp [SStore.step, h]

theorem drop_missing_fails_noop (s : SStore) (n : Bytes) (h : s.get n = none) :
    s.step (.deleteGraph n) = (s, .err) := by
  simp [SStore.step, SStore.deleteGraph, h]

theorem drop_recreate_empty (s s₁ : SStore) (n : Bytes) (h : s.deleteGraph n = some s₁) :
    ∃ s₂, s₁.newGraph n = some s₂ ∧ s₂.get n = some [] := by
  have hn : s₁.newGraph n = some ((n, []) :: s₁) := by rw [SStore.newGraph, (get_delete s s₁ n h).1]; rfl
  exact ⟨_, hn, (get_new _ _ n hn).1⟩

theorem other_graphs_untouched (s : SStore) (n n' : Bytes) (f : SGraph → SGraph) (h : n' ≠ n) :
    (s.update n f).get n' = s.get n' :=
  (BW.Proofs.Assoc.get_update s n n' f).trans (if_neg h)

theorem create_drop_leave_others (s s' : SStore) (n n' : Bytes) (hne : n' ≠ n) :
    (s.newGraph n = some s' → s'.get n' = s.get n') ∧ (s.deleteGraph n = some s' → s'.get n' = s.get n') :=
  ⟨fun h => (get_new s s' n h).2 n' hne, fun h => (get_delete s s' n h).2 n' hne⟩

theorem names_exact (s : SStore) (n : Bytes) : n ∈ s.names ↔ (s.get n).isSome = true :=
  BW.Proofs.Assoc.mem_keys s n

/-- Two triples are the same stored triple exactly when subject, predicate identifier,
    kind and (64-bit) instant, and object pre-images agree. (That pre-images agree exactly when the
    values do is C06.) -/
theorem same_triple_iff (t u : TView) :
    t.key = u.key ↔ t.ks = u.ks ∧ t.pid = u.pid ∧ t.pnano.map wrap64 = u.pnano.map wrap64 ∧ t.ko = u.ko :=
  key_eq_iff t u

/-! Non-vacuity: a concrete non-trivial history meets the hypotheses. -/
def exT1 : TView := { ks := [1], pid := [2], pnano := none, ko := [3], str := [1] }
def exT2 : TView := { ks := [1], pid := [2], pnano := some 5, ko := [3], str := [2] }
def exOps : List Op :=
  [.newGraph [7], .add [7] [exT1, exT2, exT1], .rem [7] [exT1],
   .lookup [7] .triplesForS { s := [1] } {}, .exist [7] exT2, .names]
example : ∀ op ∈ exOps, Op.ok op := by
  intro op h
  simp only [exOps, List.mem_cons, List.mem_nil_iff, or_false] at h
  rcases h with rfl | rfl | rfl | rfl | rfl | rfl <;> simp [Op.ok, BW.Proofs.Lookup.argsOK, fixesPred, fixedParts]
example : KeysNodup ([] : SGraph) := keysNodup_nil

end BW.Props.C01

#print axioms BW.Props.C01.facts_wf
#print axioms BW.Props.C01.inv_reachable
#print axioms BW.Props.C01.store_refines_spec
#print axioms BW.Props.C01.history_independent
#print axioms BW.Props.C01.exist_after_add
#print axioms BW.Props.C01.exist_after_remove
#print axioms BW.Props.C01.at_most_once
#print axioms BW.Props.C01.readd_noop
#print axioms BW.Props.C01.remove_absent_noop
#print axioms BW.Props.C01.create_existing_fails_noop
#print axioms BW.Props.C01.get_missing_fails
#print axioms BW.Props.C01.drop_missing_fails_noop
#print axioms BW.Props.C01.drop_recreate_empty
#print axioms BW.Props.C01.other_graphs_untouched
#print axioms BW.Props.C01.create_drop_leave_others
#print axioms BW.Props.C01.names_exact
#print axioms BW.Props.C01.same_triple_iff
