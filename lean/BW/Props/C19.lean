/-
C19 — The memoizing store is observationally identical to the store it wraps.

Model: BW/Model/Memo.lean (sequential and small-step semantics of the memoizer over an abstract
wrapped store); the memoizer's key and its protections are read off the source by `memofacts`
(BW/Generated/MemoFacts.lean).

PROVED:
  * `sequential_transparent` — every history of reads and writes through the memoizer returns, read by
    read, what the wrapped store would return at that moment, provided the key determines the answer;
  * `options_key_covers`, `options_key_names_instants`, `arguments_in_key`, `methods_keyed_apart` — regenerated
    obligations: every field of LookupOptions (Offset included) is in the printed form the key hashes, the time
    bounds by their instants, every argument of every memoizing method is in its key, and no two methods share an
    operation tag;
  * `interleaved_transparent` — for ANY number of concurrent readers and writers and EVERY interleaving
    of the memoizer's internal steps: whenever no update is between its forwarding and its closing
    reset, everything memoized equals the wrapped store's current answer; hence (`no_stale_after_write`)
    a lookup that starts after an update returned never sees the state before it;
  * `protections_in_place` — regenerated obligations: stores are guarded by the generation check and
    by `err == nil`, updates reset before and after forwarding, all handles of a graph share one memoizer
    (`policy_is_good`: the first two are the policy `good` of the theorems);
  * `stale_without_generation_check`, `stale_without_closing_reset` — each protection is needed: without
    it a schedule leaves a stale answer memoized after the update returned (D25, repaired);
  * `handles_transparent`, `stale_with_private_memoizers` — histories through any number of handles that share the
    memoizer are transparent; with a memoizer per handle (the code before ec2bfc6) they are not.
ASSUMED: the UUIDs that make up a key identify the arguments (C06; its known collisions apply here too).
Tie: `memo` correspondence — lockstep histories through 1–3 handles against the wrapped store (every
method, every option incl. paging, failing wrapped lookups), and every schedule of one or two updates
with one or two lookups at the `verif` yield points, compared with the model step by step.
-/
import BW.Proofs.Memo
import BW.Generated.MemoFacts

namespace BW.Props.C19
open BW.Model.Memo BW.Proofs.Memo BW.Generated

variable {W Q A U K : Type} [DecidableEq K]

theorem sequential_transparent (E : Env W Q A U K) (hk : KeyDetermines E) (w : W) (ops : List (Op Q U)) :
    Seq.run E { inner := w, cache := fun _ => none } ops = direct E w ops :=
  seq_transparent E hk ops _ (Current.empty E w)

/-- Regenerated obligation: the key covers every lookup option (D23: Offset used to be missing). -/
theorem options_key_covers : (lookupOptionFields.all fun f => cacheKeyFields.contains f) = true ∧ optionsUUIDFromString = true := by
  decide +kernel

/-- Regenerated obligation: the printed form the key hashes names the time bounds by their instants (UTC, nanoseconds).
    Printed in the bound's own zone (the pinned tree; 2a32d54) two instants whose clocks read alike in zones one and two
    seconds east of Greenwich had one key — `KeyDetermines` was false there, and the memoizer answered with the other
    window's result. -/
theorem options_key_names_instants : optionsBoundsAsInstants = true := by decide

/-- Regenerated obligation: every argument of a memoizing method is part of its key (the options either
    as given or, for Exist which takes none, the default ones). -/
theorem arguments_in_key :
    (memoMethods.all fun m => m.2.1.all fun p => m.2.2.contains p) = true := by decide +kernel

/-- Regenerated obligation: the operation tags of the memoizing methods are pairwise different and each
    method is tagged with its own name. -/
theorem methods_keyed_apart :
    (memoMethods.all fun m => m.2.2.head? == some ("op:" ++ m.1)) = true ∧ (memoMethods.map (·.1)).Nodup := by decide +kernel

/-- Regenerated obligations: the protections of the read and write paths, and shared memoizers. -/
theorem protections_in_place : memoStoresGuarded = true ∧ memoResetsAfter = true ∧ memoSharedPerGraph = true := by decide

/-- The policy the model runs with is the one the theorems are about. -/
theorem policy_is_good : (⟨memoStoresGuarded, memoResetsAfter⟩ : Policy) = good := by decide

/-- `good` is the policy the code has: `policy_is_good`. -/
theorem interleaved_transparent (E : Env W Q A U K) (hk : KeyDetermines E) (w : W) (ths : List (Thread Q A U))
    (h0 : ∀ t ∈ ths, NotStarted t) (s : Sys W Q A U K) (h : Reach good E (fresh w ths) s) (hs : s.settled = true) :
    s.cacheCurrent E :=
  BW.Proofs.Memo.interleaved_transparent E hk w ths h0 s h hs

/-- Once every update that was started has returned (or none is past its forwarding), a lookup —
    hit or miss — returns the wrapped store's current answer: no later read reflects the state before
    an update that has returned. (One memoizer; several handles share it: `handles_transparent`.) -/
theorem no_stale_after_write (E : Env W Q A U K) (hk : KeyDetermines E) (w : W) (ths : List (Thread Q A U))
    (h0 : ∀ t ∈ ths, NotStarted t) (s : Sys W Q A U K) (h : Reach good E (fresh w ths) s) (hs : s.settled = true) (q : Q) :
    (match s.cache (E.key q) with | some a => a | none => E.ans s.inner q) = E.ans s.inner q := by
  cases hc : s.cache (E.key q) with
  | none => rfl
  | some a => exact BW.Proofs.Memo.interleaved_transparent E hk w ths h0 s h hs _ a hc q rfl

/-- The wrapped store counts the updates it has seen. -/
def cnt : Env Nat Nat Nat Unit Nat := { ans := fun w _ => w, upd := fun w _ => w + 1, key := fun q => q }
def oneEach : List (Thread Nat Nat Unit) := [.writer () .init, .reader 0 .init]

/-- Without the generation check: the lookup misses and fetches, the update runs to its end, the lookup
    memoizes what it fetched — and every later lookup gets the state before the update. -/
theorem stale_without_generation_check :
    let s := (fresh (K := Nat) 0 oneEach).runSchedule ⟨false, true⟩ cnt [1, 1, 0, 0, 0, 1]
    s.settled = true ∧ s.inner = 1 ∧ s.cache 0 = some 0 := by decide

/-- Without the closing reset: the update resets, the lookup starts (same generation), the update is
    forwarded only after the lookup fetched, the lookup memoizes — stale again. -/
theorem stale_without_closing_reset :
    let s := (fresh (K := Nat) 0 oneEach).runSchedule ⟨true, false⟩ cnt [0, 1, 1, 0, 0, 1]
    s.settled = true ∧ s.inner = 1 ∧ s.cache 0 = some 0 := by decide

/-- With both, the same schedules leave nothing stale (instances of the theorem, as a test). -/
example : ((fresh (K := Nat) 0 oneEach).runSchedule good cnt [1, 1, 0, 0, 0, 1]).cache 0 = none := by decide
example : ((fresh (K := Nat) 0 oneEach).runSchedule good cnt [0, 1, 1, 0, 0, 1]).cache 0 = none := by decide

/-- Store.Graph hands every caller of one graph the same memoizer (ec2bfc6; the correspondence drives two
    handles). Then any history of look-ups and updates through any number of handles gives, look-up by
    look-up, the answers of the wrapped graph. -/
theorem handles_transparent (E : Env W Q A U K) (hk : KeyDetermines E) (ops : List (HOp Q U)) (w : W) :
    Multi.run true E ⟨w, fun _ _ => none⟩ ops = directH E w ops :=
  multi_transparent E hk ops ⟨w, fun _ _ => none⟩ (Current.empty E w)

/-- With a memoizer per handle (the code before ec2bfc6) a second handle keeps the answer from before the update. -/
theorem stale_with_private_memoizers :
    Multi.run false cnt ⟨0, fun _ _ => none⟩ [.read 0 7, .write 1 (), .read 0 7] = [0, 0] ∧
    directH cnt 0 [.read 0 7, .write 1 (), .read 0 7] = [0, 1] := by decide

end BW.Props.C19

#print axioms BW.Props.C19.sequential_transparent
#print axioms BW.Props.C19.options_key_covers
#print axioms BW.Props.C19.options_key_names_instants
#print axioms BW.Props.C19.arguments_in_key
#print axioms BW.Props.C19.methods_keyed_apart
#print axioms BW.Props.C19.protections_in_place
#print axioms BW.Props.C19.policy_is_good
#print axioms BW.Props.C19.interleaved_transparent
#print axioms BW.Props.C19.no_stale_after_write
#print axioms BW.Props.C19.stale_without_generation_check
#print axioms BW.Props.C19.stale_without_closing_reset
#print axioms BW.Props.C19.handles_transparent
#print axioms BW.Props.C19.stale_with_private_memoizers
