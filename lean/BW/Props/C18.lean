/-
C18 — The parser accepts exactly whole grammar statements and keeps no state between.

Model: the predictive parser machine of `BW.Model.Grammar` (parser.go + llk.go) over the grammar table
regenerated from the running code; its theorems are proved for *every* grammar without the
end-of-input token in its rules (`BW.Proofs.Parser`) and instantiated at BQL.  The hook closures that
the semantic grammar hangs on the rules are modelled in `BW.Model.Hooks` (`hooks_keep_no_state`); which
rule hands its tokens to which hook is a table regenerated by probing them, `BW.Generated.HookFacts`
(`routing_wf`).
-/
import BW.Proofs.GrammarFacts
import BW.Proofs.Hooks
import BW.Generated.HookFacts

namespace BW.Props.C18
open BW.Model BW.Generated BW.Proofs.Parser

theorem bql_alts_wf : ∀ s ∈ allSyms, altsWF (bql.rules s) = true := by decide +kernel

theorem bql_no_eof : NoEofG bql := BW.Proofs.GrammarFacts.bql_no_eof

/-- Soundness: the parser accepts only if the consumed tokens are a statement derivable from the
    grammar (in the greedy sense, hence in the plain sense). -/
theorem parse_sound (f : Nat) (ts rest : List Tok) (evs : List (Ev Tok Sym Tok))
    (h : parseKinds bql f ts = .accept rest evs) :
    GDerives bql [El.s .START] ts rest ∧ ∃ pre, ts = pre ++ rest ∧ Derives bql [El.s .START] pre :=
  have := BW.Proofs.Parser.parse_sound bql_no_eof h
  ⟨this, gderives_derives _ _ _ this⟩

/-- Completeness: it accepts every derivable statement in which each optional part is present
    whenever that part's first token is the next token (greedy derivations). -/
theorem parse_complete (ts rest : List Tok) (h : GDerives bql [El.s .START] ts rest) :
    ∃ n, ∀ f, n ≤ f → ∃ evs, parseKinds bql f ts = .accept rest evs :=
  BW.Proofs.Parser.parse_complete bql ts rest h

/-- With the end-of-input check (`Parser.Parse` after the D09 repair) a token sequence is accepted
    exactly when the *whole* of it is a greedily derivable statement. -/
theorem parse_whole_input (ts : List Tok) :
    (∃ n, ∀ f, n ≤ f → acceptsStatement bql true f ts = true) ↔ GDerives bql [El.s .START] ts [] :=
  accepts_iff_gderives bql_no_eof ts

/-- Without that check trailing input is silently accepted (the behaviour before the repair):
    `create graph ?x ; select`. -/
theorem no_eof_check_witness :
    acceptsStatement bql false 64 [.CREATE, .GRAPH, .BINDING, .SEMICOLON, .QUERY] = true ∧
    acceptsStatement bql true 64 [.CREATE, .GRAPH, .BINDING, .SEMICOLON, .QUERY] = false := by decide +kernel

theorem fuel_independent (f n : Nat) (ts : List Tok) (h : parseKinds bql f ts ≠ .nofuel) :
    parseKinds bql (f + n) ts = parseKinds bql f ts :=
  run_mono bql f n _ ts [] h

theorem semantic_rejects_more (hooksOk : List (Ev Tok Sym Tok) → Bool) (chk : Bool) (f : Nat) (ts : List Tok)
    (h : acceptsSemantic bql hooksOk chk f ts = true) : acceptsStatement bql chk f ts = true := by
  unfold acceptsSemantic at h
  unfold acceptsStatement
  split at h
  · simp only [Bool.and_eq_true] at h
    exact h.1
  · cases h

/-- One token chooses the alternative: if a rule has an alternative starting with the next token,
    that alternative is the one taken. -/
theorem one_token_chooses (x : Sym) (k : Tok) (r : List (El Tok Sym)) (h : (El.t k :: r) ∈ bql.rules x) :
    ∃ j, selectAlt k (bql.rules x) 0 = some (j, El.t k :: r) :=
  selectAlt_of_mem k _ 0 r (bql_alts_wf x (BW.Proofs.GrammarFacts.allSyms_complete x)) h

/-- The parser machine itself carries no state from one `parseKinds` call to the next: it is a
    function of (grammar, tokens), which is all this theorem records.  What the Go implementation
    adds are the hook closures: `hooks_keep_no_state` below for their model, the `parse/state`
    correspondence (sequences of statements through one parser instance against fresh instances) for
    the code. -/
theorem machine_stateless (f : Nat) (ts : List Tok) (history : List (List Tok)) :
    (history.map (parseKinds bql f), parseKinds bql f ts).2 = parseKinds bql f ts := rfl

/-- Six hooks are closures with state that outlives a statement: the three WHERE-clause hooks and the projection
    hook (a `lastNopToken` each: `hs`, `hp`, `ho`, `hv`), the global-bound collector (`hb`) and `dataAccumulator`
    (`da`). Whatever they remember from statements parsed earlier with the same parser — accepted or rejected, broken off after a modifier
    keyword or not — what is extracted from a new statement — pattern clauses, projections, input graphs, GROUP BY, ORDER BY,
    LIMIT, global time bounds, statement type, graph names, data triples, construct template — is the same (the model resets a
    closure when it sees another statement: 7ebb438). -/
theorem hooks_keep_no_state (stmt : Nat) (hs hp ho hv hs' hp' ho' hv' : BW.Model.Hooks.HState)
    (hb hb' : BW.Model.Hooks.BState) (da da' : BW.Model.Hooks.DAcc)
    (h1 : hs.cur ≠ stmt) (h2 : hp.cur ≠ stmt) (h3 : ho.cur ≠ stmt) (h4 : hv.cur ≠ stmt) (h5 : hb.cur ≠ stmt) (h6 : da.cur ≠ stmt)
    (h1' : hs'.cur ≠ stmt) (h2' : hp'.cur ≠ stmt) (h3' : ho'.cur ≠ stmt) (h4' : hv'.cur ≠ stmt) (h5' : hb'.cur ≠ stmt) (h6' : da'.cur ≠ stmt)
    (evs : List BW.Model.Hooks.HEv) :
    (BW.Model.Hooks.wrun { stmt := stmt, hs := hs, hp := hp, ho := ho, hv := hv, hb := hb, da := da } evs).map (fun w => (w.pattern, w.head)) =
    (BW.Model.Hooks.wrun { stmt := stmt, hs := hs', hp := hp', ho := ho', hv := hv', hb := hb', da := da' } evs).map (fun w => (w.pattern, w.head)) :=
  BW.Proofs.Hooks.wrun_sim (by
    simp only [BW.Proofs.Hooks.entered, BW.Proofs.Hooks.enter_of_ne, BW.Proofs.Hooks.benter_of_ne,
      BW.Proofs.Hooks.denter_of_ne, ne_eq, not_false_eq_true, *]) evs

/-- The symbols the alternatives of `s` mention (`referenced bql s` of `BW.Model.Grammar`, spelt again). -/
def succs (s : Sym) : List Sym :=
  (bql.rules s).flatMap fun alt => alt.filterMap fun e => match e with | .s x => some x | .t _ => none

/-- `n` rounds of closing a list of symbols under `succs`. `routing_wf` uses 6 rounds; on the table as it stands
    the lists stop growing after 3. That 6 suffices is not part of `routing_wf`: too few rounds would weaken its
    conjuncts `(reachN 6 [X]).all …`, and its conjunct "every symbol with a hook is in one of these lists" notices
    only a symbol that no list reaches. -/
def reachN : Nat → List Sym → List Sym
  | 0, l => l
  | n + 1, l => reachN n (l ++ (l.flatMap succs).filter (fun x => !l.contains x))

/-- Every alternative of `s` hands its tokens to hook `p`. -/
def altsAll (s : Sym) (p : BW.Model.Hooks.Part) : Bool := (List.range (bql.rules s).length).all fun i => partOf s i == p

/-- The tokens of a clause's subject part go to the subject hook, those of its predicate part to the
    predicate hook, those of its object part to the object hook; those of the SELECT list to the projection
    hook, of the FROM list to the input-graph hook, of GROUP BY, ORDER BY, LIMIT and the global time bound to
    theirs; the tokens of INSERT / DELETE statements to the data accumulator (the only symbol whose
    alternatives differ is START: alternatives 1 and 2), graph lists of CREATE / DROP and of INTO / IN to the two
    graph accumulators, template subjects, predicates and objects to the construct hooks; and to no other.
    Clauses are opened and closed by the next-clause hook, the pattern by the init hook; the end of WHERE
    flushes the working projection; the ORDER BY list is closed by its checker; the statement type is bound
    where the statement's body ends; template clauses and pairs are opened and closed by their hooks; every
    alternative of a symbol carries the same clause hooks. -/
theorem routing_wf :
    hooksUniform = true ∧ splitSyms = [.START] ∧
    (List.range (bql.rules .START).length).map (partOf .START) = [.none, .data, .data, .none, .none, .none, .none, .none] ∧
    (reachN 6 [.SUBJECT_EXTRACT]).all (altsAll · .subj) = true ∧
    (reachN 6 [.PREDICATE]).all (altsAll · .pred) = true ∧
    (reachN 6 [.OBJECT]).all (altsAll · .obj) = true ∧
    (reachN 6 [.ORDER_BY]).all (altsAll · .order) = true ∧
    (reachN 6 [.VARS]).all (altsAll · .vars) = true ∧
    (reachN 6 [.INPUT_GRAPHS]).all (altsAll · .inGraphs) = true ∧
    (reachN 6 [.GROUP_BY]).all (altsAll · .group) = true ∧
    (reachN 6 [.LIMIT]).all (altsAll · .limit) = true ∧
    (reachN 6 [.GLOBAL_TIME_BOUND]).all (altsAll · .bounds) = true ∧
    [Sym.FIRST_CLAUSE, .CLAUSES, .OPTIONAL_CLAUSE].all (altsAll · .subj) = true ∧
    (reachN 6 [.INSERT_OBJECT, .INSERT_DATA, .DELETE_OBJECT, .DELETE_DATA]).all (altsAll · .data) = true ∧
    (reachN 6 [.GRAPHS]).all (altsAll · .graphs) = true ∧
    (reachN 6 [.OUTPUT_GRAPHS]).all (altsAll · .outGraphs) = true ∧
    [Sym.CONSTRUCT_TRIPLES, .DECONSTRUCT_TRIPLES].all (altsAll · .cSubj) = true ∧
    altsAll .CONSTRUCT_PREDICATE .cPred = true ∧ altsAll .CONSTRUCT_OBJECT .cObj = true ∧
    allSyms.all (fun s => altsAll s .none || s == .START || (reachN 6 [.SUBJECT_EXTRACT, .PREDICATE, .OBJECT, .FIRST_CLAUSE, .CLAUSES,
      .OPTIONAL_CLAUSE, .ORDER_BY, .VARS, .INPUT_GRAPHS, .GROUP_BY, .LIMIT, .GLOBAL_TIME_BOUND, .INSERT_OBJECT, .INSERT_DATA,
      .DELETE_OBJECT, .DELETE_DATA, .GRAPHS, .OUTPUT_GRAPHS, .CONSTRUCT_TRIPLES, .DECONSTRUCT_TRIPLES, .CONSTRUCT_PREDICATE,
      .CONSTRUCT_OBJECT]).contains s) = true ∧
    [Sym.FIRST_CLAUSE, .CLAUSES, .MORE_CLAUSES].all (fun s => startHook s == .next && endHook s == .next) = true ∧
    startHook .WHERE = .init ∧ endHook .WHERE = .flushVars ∧ endHook .ORDER_BY = .orderCheck ∧
    [Sym.CONSTRUCT_TRIPLES, .MORE_CONSTRUCT_TRIPLES, .DECONSTRUCT_TRIPLES, .MORE_DECONSTRUCT_TRIPLES].all
      (fun s => startHook s == .cNext && endHook s == .cNext) = true ∧
    startHook .CONSTRUCT_FACTS = .cInit ∧ startHook .DECONSTRUCT_FACTS = .cInit ∧
    startHook .CONSTRUCT_PREDICATE = .cPair ∧ endHook .CONSTRUCT_PREDICATE = .none ∧
    startHook .CONSTRUCT_OBJECT = .none ∧ endHook .CONSTRUCT_OBJECT = .cPair ∧
    endHook .INSERT_OBJECT = .bindType .insert ∧ endHook .DELETE_OBJECT = .bindType .delete ∧
    endHook .CREATE_GRAPHS = .bindType .create ∧ endHook .DROP_GRAPHS = .bindType .drop ∧
    endHook .CONSTRUCT_FACTS = .bindType .construct ∧ endHook .DECONSTRUCT_FACTS = .bindType .deconstruct ∧
    endHook .GRAPH_SHOW = .bindType .show ∧
    allSyms.all (fun s => (startHook s == .none && endHook s == .none) || [Sym.FIRST_CLAUSE, .CLAUSES, .MORE_CLAUSES, .WHERE, .ORDER_BY,
      .CONSTRUCT_TRIPLES, .MORE_CONSTRUCT_TRIPLES, .DECONSTRUCT_TRIPLES, .MORE_DECONSTRUCT_TRIPLES, .CONSTRUCT_FACTS,
      .DECONSTRUCT_FACTS, .CONSTRUCT_PREDICATE, .CONSTRUCT_OBJECT, .INSERT_OBJECT, .DELETE_OBJECT, .CREATE_GRAPHS, .DROP_GRAPHS,
      .GRAPH_SHOW].contains s) = true := by
  decide +kernel

/-! Non-vacuity: a real statement is greedily derivable and accepted. -/
example : acceptsStatement bql true 64 [.CREATE, .GRAPH, .BINDING, .SEMICOLON] = true := by decide +kernel

end BW.Props.C18

#print axioms BW.Props.C18.bql_no_eof
#print axioms BW.Props.C18.bql_alts_wf
#print axioms BW.Props.C18.parse_sound
#print axioms BW.Props.C18.parse_complete
#print axioms BW.Props.C18.parse_whole_input
#print axioms BW.Props.C18.no_eof_check_witness
#print axioms BW.Props.C18.fuel_independent
#print axioms BW.Props.C18.semantic_rejects_more
#print axioms BW.Props.C18.one_token_chooses
#print axioms BW.Props.C18.machine_stateless
#print axioms BW.Props.C18.hooks_keep_no_state
#print axioms BW.Props.C18.routing_wf
