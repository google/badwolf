/-
C04 — Data and graph statements change the store exactly as stated, nothing else.

Model: `BW.Model.Stm.exec` (createPlan, dropPlan, insertPlan, deletePlan, constructPlan with the
`update` fan-out, `Statement.Init`, template instantiation and `Triple.Reify`) over the storage
contract that C01 establishes for the in-memory driver (names ↦ sets of triples, triples as values),
the WHERE pattern evaluated by the reference semantics of C03.  `SemAt st g` is the set graph `g`
denotes.

ASSUMED (not provable about the code): `node.NewBlankNode` never returns a node that is already in
the store (random UUIDs) — the model's counter is the abstraction of that.
Tie: the `stmts` correspondence (see vlib/c04.py).
-/
import BW.Proofs.Statements
import BW.Proofs.HooksStmt

namespace BW.Props.C04
open BW.Model BW.Model.Stm BW.Proofs.Statements

/-- INSERT DATA: each existing target graph becomes its previous content plus the listed triples;
    nothing else changes; success iff every target exists. -/
theorem insert_effect (st : VStore) (d : DStmt) (hk : d.kind = .insert) :
    let r := exec st d
    (∀ m k, SemAt r.1 m k ↔ SemAt st m k ∨ (m ∈ d.outputs ∧ st.exists m = true ∧ k ∈ d.data.map normT)) ∧
    (∀ m, m ∉ d.outputs → r.1.get m = st.get m) ∧
    (∀ m, r.1.exists m = st.exists m) ∧
    (r.2 = .ok ↔ ∀ n ∈ d.outputs, st.exists n = true) := by
  unfold exec
  rw [hk]
  exact ⟨updateAll_add st d.outputs d.data, updateAll_frame ..⟩

/-- DELETE DATA: each target loses exactly the listed triples; nothing else changes. -/
theorem delete_effect (st : VStore) (d : DStmt) (hk : d.kind = .delete) :
    let r := exec st d
    (∀ m k, SemAt r.1 m k ↔ SemAt st m k ∧ ¬ (m ∈ d.inputs ∧ k ∈ d.data.map normT)) ∧
    (∀ m, m ∉ d.inputs → r.1.get m = st.get m) ∧
    (∀ m, r.1.exists m = st.exists m) ∧
    (r.2 = .ok ↔ ∀ n ∈ d.inputs, st.exists n = true) := by
  unfold exec
  rw [hk]
  exact ⟨updateAll_rem st d.inputs d.data, updateAll_frame ..⟩

/-- CREATE GRAPH: afterwards a graph exists iff it existed or is named; graphs that existed keep their
    content; the new ones are empty; success implies none of the names existed. -/
theorem create_effect (st : VStore) (d : DStmt) (hk : d.kind = .create) (m : Bytes) :
    let r := exec st d
    r.1.get m = (match st.get m with
      | some g => some g
      | none => if m ∈ d.graphNames then some [] else none) ∧
    (r.2 = .ok → ∀ n ∈ d.graphNames, st.exists n = false) := by
  unfold exec
  rw [hk]
  refine ⟨?_, fun h => (stepC_acts.foldl_ok (fun x h => by cases x <;> cases h) stepC_ok
    d.graphNames (st, .ok) h).2⟩
  rw [execCreate_eq, stepC_acts.foldl_get fun x => by cases x <;> rfl]
  cases st.get m
  · rfl
  · exact ite_self _

/-- DROP GRAPH: exactly the named graphs disappear; the others keep their content; success implies
    every named graph existed. -/
theorem drop_effect (st : VStore) (d : DStmt) (hk : d.kind = .drop) (m : Bytes) :
    let r := exec st d
    r.1.get m = (if m ∈ d.graphNames then none else st.get m) ∧
    (r.2 = .ok → ∀ n ∈ d.graphNames, st.exists n = true) := by
  unfold exec
  rw [hk]
  exact ⟨stepD_acts.foldl_get (fun _ => rfl) d.graphNames (st, .ok) m,
    fun h => (stepD_acts.foldl_ok (b := true) (fun _ h => nomatch h) stepD_ok
      d.graphNames (st, .ok) h).2⟩

/-- The triples a template yields over the solutions of the WHERE pattern that HAVING (if any) keeps. -/
def templateTriples (st : VStore) (d : DStmt) : Except TErr (List Triple × Nat) :=
  (whereRows st d).bind fun rows => instAll (fun b => d.outBindings.contains b) d.ccs rows st.nextBlank

/-- `exec` on CONSTRUCT / DECONSTRUCT: `Statement.Init`, then the template, then one `update`. -/
theorem exec_template (st : VStore) (d : DStmt) (hk : d.kind = .construct ∨ d.kind = .deconstruct) :
    exec st d = if (d.graphNames ++ d.inputs ++ d.outputs).all st.exists then
        match templateTriples st d with
        | .error _ => (st, .failed)
        | .ok (ts, next) => updateAll { st with nextBlank := next } d.outputs
            (if d.kind = .construct then (·.addAll ts) else (·.remAll ts))
      else (st, .rejected) := by
  unfold exec templateTriples
  generalize (whereRows st d).bind _ = x
  rcases hk with hk | hk <;> rw [hk] <;> cases (d.graphNames ++ d.inputs ++ d.outputs).all st.exists <;>
    rcases x with _ | ⟨ts, next⟩ <;> rfl

/-- CONSTRUCT / DECONSTRUCT naming a graph that does not exist is rejected before anything is
    written: the store is unchanged. -/
theorem construct_rejected (st : VStore) (d : DStmt) (hk : d.kind = .construct ∨ d.kind = .deconstruct)
    (n : Bytes) (hn : n ∈ d.graphNames ++ d.inputs ++ d.outputs) (hmiss : st.exists n = false) :
    exec st d = (st, .rejected) := by
  rw [exec_template st d hk, if_neg]
  exact fun hall => Bool.false_ne_true (hmiss.symm.trans (List.all_eq_true.mp hall n hn))

/-- CONSTRUCT: on success every target gains exactly the instantiated template triples; graphs that
    are not targets (the FROM graphs included) keep their content; no graph appears or disappears. -/
theorem construct_effect (st : VStore) (d : DStmt) (hk : d.kind = .construct)
    (hall : (d.graphNames ++ d.inputs ++ d.outputs).all st.exists = true) (ts : List Triple) (next : Nat)
    (hts : templateTriples st d = .ok (ts, next)) :
    let r := exec st d
    (∀ m k, SemAt r.1 m k ↔ SemAt st m k ∨ (m ∈ d.outputs ∧ k ∈ ts.map normT)) ∧
    (∀ m, m ∉ d.outputs → r.1.get m = st.get m) ∧
    (∀ m, r.1.exists m = st.exists m) ∧ r.2 = .ok ∧ r.1.nextBlank = next := by
  have hex : ∀ n ∈ d.outputs, st.exists n = true := fun n hn =>
    List.all_eq_true.mp hall n (List.mem_append_right _ hn)
  rw [exec_template st d (.inl hk), if_pos hall, hts]
  simp only [if_pos hk]
  obtain ⟨h1, h2, h3⟩ := updateAll_frame { st with nextBlank := next } d.outputs (·.addAll ts)
  exact ⟨fun m k => (updateAll_add ..).trans (or_congr_right (and_congr_right fun hm => and_iff_right (hex m hm))),
    h1, h2, h3.mpr hex, updateAll_nextBlank ..⟩

/-- DECONSTRUCT: on success every target loses exactly the instantiated template triples. -/
theorem deconstruct_effect (st : VStore) (d : DStmt) (hk : d.kind = .deconstruct)
    (hall : (d.graphNames ++ d.inputs ++ d.outputs).all st.exists = true) (ts : List Triple) (next : Nat)
    (hts : templateTriples st d = .ok (ts, next)) :
    let r := exec st d
    (∀ m k, SemAt r.1 m k ↔ SemAt st m k ∧ ¬ (m ∈ d.outputs ∧ k ∈ ts.map normT)) ∧
    (∀ m, m ∉ d.outputs → r.1.get m = st.get m) ∧
    (∀ m, r.1.exists m = st.exists m) ∧ r.2 = .ok := by
  rw [exec_template st d (.inr hk), if_pos hall, hts]
  simp only [if_neg (show ¬ d.kind = .construct by rw [hk]; nofun)]
  obtain ⟨h1, h2, h3⟩ := updateAll_frame { st with nextBlank := next } d.outputs (·.remAll ts)
  exact ⟨updateAll_rem _ d.outputs ts, h1, h2,
    h3.mpr fun n hn => List.all_eq_true.mp hall n (List.mem_append_right _ hn)⟩

/-- The template is instantiated clause by clause, row by row, over the rows HAVING keeps. -/
theorem template_is_per_row (st : VStore) (d : DStmt) (rows : List Row) (h : whereRows st d = .ok rows) :
    templateTriples st d = instSeq (fun b => d.outBindings.contains b)
      (d.ccs.flatMap fun cc => rows.map fun r => (cc, r)) st.nextBlank := by
  unfold templateTriples
  rw [h]
  exact instAll_eq _ _ _ _

/-- HAVING of CONSTRUCT / DECONSTRUCT keeps exactly the solutions for which it holds, in order. -/
theorem having_keeps_exactly (d : DStmt) (sols kept : List Row) (h : keptRows d sols = .ok kept) :
    kept = sols.filter (fun r => d.keep r == some true) ∧ ∀ r ∈ sols, (d.keep r).isSome = true := by
  fun_induction keptRows d sols generalizing kept with
  | case1 => cases h; exact ⟨rfl, nofun⟩
  | case2 => cases h
  | case3 r rest b hb ih =>
    cases hr : keptRows d rest with
    | error e => rw [hr] at h; cases h
    | ok rs =>
      rw [hr] at h
      cases h
      obtain ⟨e1, e2⟩ := ih rs hr
      refine ⟨?_, List.forall_mem_cons.mpr ⟨by rw [hb]; rfl, e2⟩⟩
      rw [List.filter_cons, hb, ← e1]
      cases b <;> rfl

/-- An evaluation of HAVING that fails fails the statement before anything is written. -/
theorem having_failure_changes_nothing (st : VStore) (d : DStmt) (hk : d.kind = .construct ∨ d.kind = .deconstruct)
    (hall : (d.graphNames ++ d.inputs ++ d.outputs).all st.exists = true) (e : TErr) (h : whereRows st d = .error e) :
    exec st d = (st, .failed) := by
  rw [exec_template st d hk, if_pos hall, templateTriples, h]
  rfl

/-- A clause without ';' yields one triple per row. -/
theorem plain_row (hasB : Bytes → Bool) (cc : CClause) (b : Node) (r : Row) (ts : List Triple)
    (h : instClause hasB cc b r = .ok (ts, false)) : ∃ t, ts = [t] ∧ cc.pairs.length = 1 := by
  obtain ⟨first, rest, s, p, o, t, hp, -, -, -, -, h⟩ := instClause_ok h
  split at h
  · rename_i hr
    exact ⟨t, h.1, by rw [hp, hr]; rfl⟩
  · obtain ⟨_, _, _, h⟩ := h
    cases h

/-- A clause with ';' yields, per row, the three reification triples and one extra fact per further
    pair, all on one blank node — and not the reified triple itself (the planner writes `rts[1:]` of `Triple.Reify`). -/
theorem reified_row (hasB : Bytes → Bool) (cc : CClause) (b : Node) (r : Row) (ts : List Triple)
    (h : instClause hasB cc b r = .ok (ts, true)) :
    ∃ (t : Triple) (extras : List Triple), ts = [⟨b, reifPred subjectId t.p, .node t.s⟩, ⟨b, reifPred predicateId t.p, .pred t.p⟩,
        ⟨b, reifPred objectId t.p, t.o⟩] ++ extras ∧ extras.length + 1 = cc.pairs.length ∧ (∀ e ∈ extras, e.s = b) := by
  obtain ⟨first, rest, s, p, o, t, hp, -, -, -, -, h⟩ := instClause_ok h
  split at h
  · cases h.2
  · obtain ⟨extras, hm, hts, -⟩ := h
    obtain ⟨hl, hs⟩ := BW.Proofs.Lists.mapM_ok hm
    refine ⟨t, extras, hts, by rw [hp, hl]; rfl, fun e he => ?_⟩
    obtain ⟨pp, -, hpp⟩ := hs e he
    exact instExtra_subject hpp

/-- Blank nodes: different reifications of one statement get different blank nodes, none below the
    store's counter, and the counter ends above all of them. -/
theorem blank_nodes_fresh (hasB : Bytes → Bool) (ps : List (CClause × Row)) (n n' : Nat) (ts : List Triple)
    (h : instSeq hasB ps n = .ok (ts, n')) :
    ((handed hasB ps n).map blankNode).Nodup ∧ (∀ i ∈ handed hasB ps n, n ≤ i ∧ i < n') ∧ n ≤ n' := by
  obtain ⟨c, rfl, hh⟩ := handed_eq_range' h
  rw [hh]
  exact ⟨List.pairwise_map.mpr ((List.nodup_range' 1).imp fun hne e => hne (blankNode_inj _ _ e)),
    fun i hi => List.mem_range'_1.mp hi, Nat.le_add_right n c⟩

/-! Non-vacuity: a reifying template on a one-row result. -/
def exCC : CClause := { sBinding := [63, 115], pairs := [{ p := some (.imm [112]), oBinding := [63, 111] }, { p := some (.imm [113]), o := some (.lit (.int 1)) }] }
def exRow : Row := [([63, 115], .node ⟨[47, 117], [97]⟩), ([63, 111], .node ⟨[47, 117], [98]⟩)]
example : (match instClause (fun _ => true) exCC (blankNode 0) exRow with | .ok (ts, used) => ts.length == 4 && used | _ => false) = true := by decide +kernel
def exSt : VStore := { graphs := [([63, 97], [])] }
def exIns : DStmt := { kind := .insert, outputs := [[63, 97]], data := [⟨⟨[47, 117], [97]⟩, .imm [112], .lit (.int 1)⟩] }
example : (exec exSt exIns).2 = .ok ∧ ((exec exSt exIns).1.get [63, 97]).map (·.length) = some 1 := by decide +kernel

/-! ### From the text to the statement (`BW.Model.Hooks`; which symbol feeds which hook: `C18.routing_wf`) -/

/-- The body of INSERT / DELETE means what it says: the data accumulator over the tokens of the body — per triple a
    separator (`{` before the first, `.` before the others) and its subject, predicate and object tokens; at the end
    `} ;` — collects exactly the triples written, in order, and ends with no triple under construction. The closure
    starts as `enter` leaves it (`C18.hooks_keep_no_state`). -/
theorem data_means_its_tokens (ts d : List Triple) (c : Nat) :
    BW.Proofs.HooksStmt.dataRun d { cur := c }
      (ts.flatMap BW.Proofs.HooksStmt.tripleToks ++ [BW.Proofs.HooksStmt.tk .other, BW.Proofs.HooksStmt.tk .other]) =
      some (d ++ ts, { cur := c }) := by
  open BW.Proofs.HooksStmt in
  induction ts generalizing d with
  | nil => rw [List.append_nil]; rfl
  | cons t ts ih => rw [List.flatMap_cons, List.append_assoc, one_triple, ih, List.append_assoc]; rfl

/-- CREATE / DROP GRAPH and INTO / IN mean what they say: the graphs are the bindings listed, in order. -/
theorem graph_list_means_its_tokens (gs l : List Bytes) :
    BW.Proofs.HooksStmt.namesRun l (BW.Proofs.HooksStmt.commaToks gs) = some (l ++ gs) := by
  open BW.Model.Hooks BW.Proofs.HooksStmt in
  fun_induction commaToks gs generalizing l <;> simp_all [namesRun, namesStep, tk]

/-- The template of CONSTRUCT / DECONSTRUCT means what it says: driven by the clause hooks the grammar attaches, the
    template hooks over `s p o ; p' o' . s' …` build exactly the clauses written, in order — subject (node or binding),
    per pair its predicate (full or binding) and object (node, literal, full predicate or binding) — and leave no
    clause under construction. Blank-node tokens, which the hooks read as node tokens, are not among `ClauseA`'s. -/
theorem template_means_its_tokens (cs : List BW.Proofs.HooksStmt.ClauseA) (hok : ∀ c ∈ cs, c.ok ∧ c.pairs ≠ [])
    (w : BW.Model.Hooks.WState) (hw : w.wcc = some {}) :
    BW.Model.Hooks.wrun w (BW.Proofs.HooksStmt.triplesEvs cs) =
      some { w with head := { w.head with ccs := w.head.ccs ++ cs.map BW.Proofs.HooksStmt.ClauseA.denote } } := by
  have h := BW.Proofs.HooksStmt.template_denote cs hok w hw []
  rw [List.append_nil] at h
  rw [h, ← hw]
  rfl

/-- Non-vacuity: `{ ?s "p"@[] ?o ; ?q /u<a> }` has one clause with two pairs. -/
example : ((BW.Model.Hooks.wrun { wcc := some {} } (BW.Proofs.HooksStmt.triplesEvs
      [{ s := .bind [63, 115], pairs := [{ p := .pred (.imm [112]), o := .bind [63, 111] }, { p := .bind [63, 113], o := .obj (.node ⟨[47, 117], [97]⟩) }] }])).map
    fun w => w.head.ccs.map fun c => (c.sBinding, c.pairs.length)) = some [([63, 115], 2)] := by decide +kernel

end BW.Props.C04

#print axioms BW.Props.C04.insert_effect
#print axioms BW.Props.C04.delete_effect
#print axioms BW.Props.C04.create_effect
#print axioms BW.Props.C04.drop_effect
#print axioms BW.Props.C04.construct_rejected
#print axioms BW.Props.C04.construct_effect
#print axioms BW.Props.C04.deconstruct_effect
#print axioms BW.Props.C04.template_is_per_row
#print axioms BW.Props.C04.plain_row
#print axioms BW.Props.C04.reified_row
#print axioms BW.Props.C04.blank_nodes_fresh
#print axioms BW.Props.C04.data_means_its_tokens
#print axioms BW.Props.C04.graph_list_means_its_tokens
#print axioms BW.Props.C04.template_means_its_tokens
#print axioms BW.Props.C04.having_keeps_exactly
#print axioms BW.Props.C04.having_failure_changes_nothing
