/-
C02 — Every indexed look-up returns exactly what a scan of the graph would return.
-/
import BW.Proofs.Lookup
import BW.Generated.MemoryFacts

namespace BW.Props.C02
open BW.Model BW.Spec BW.Proofs.Store BW.Proofs.Lookup BW.Generated

/-- As `C01.facts_wf`. -/
theorem facts_wf : Facts.WF memoryFacts = true := by decide +kernel

/-- With default options every one of the ten indexed look-ups (and the full listing) returns the
    stored triples whose fixed components equal the given ones — a filter over a scan of the stored
    set — in `String()` order, on every graph satisfying the index invariant (every reachable graph,
    `C01.inv_reachable`). -/
theorem lookup_eq_scan_default {g : Graph} (hg : Inv memoryFacts g) (m : Method) (a : LArgs)
    (ha : argsOK m a = true) :
    g.lookup memoryFacts m a {} = .ok (sortByStr (g.master.filter (matchesArgs m a))) := by
  rw [lookup_unpaged facts_wf hg m a ha rfl rfl rfl, List.filter_eq_self.mpr fun t _ => inWindow_unbounded rfl rfl t]

/-- One result per stored triple whose fixed components match, and nothing else (as a multiset). -/
theorem lookup_perm_scan {g : Graph} (hg : Inv memoryFacts g) (m : Method) (a : LArgs)
    (ha : argsOK m a = true) :
    ∃ r, g.lookup memoryFacts m a {} = .ok r ∧ r.Perm (g.master.filter (matchesArgs m a)) :=
  ⟨_, lookup_eq_scan_default hg m a ha, List.mergeSort_perm _ _⟩

/-- No result is derived from a triple that is not (or no longer) stored. -/
theorem lookup_sound {g : Graph} (hg : Inv memoryFacts g) (m : Method) (a : LArgs)
    (ha : argsOK m a = true) (r : List TView) (hr : g.lookup memoryFacts m a {} = .ok r) :
    ∀ t ∈ r, t ∈ g.master ∧ matchesArgs m a t = true := by
  obtain ⟨r', hr', hp⟩ := lookup_perm_scan hg m a ha
  cases hr.symm.trans hr'
  exact fun t ht => List.mem_filter.mp (hp.mem_iff.mp ht)

/-- No stored matching triple is missing. -/
theorem lookup_complete {g : Graph} (hg : Inv memoryFacts g) (m : Method) (a : LArgs)
    (ha : argsOK m a = true) (t : TView) (ht : t ∈ g.master) (hm : matchesArgs m a t = true) :
    ∃ r, g.lookup memoryFacts m a {} = .ok r ∧ t ∈ r :=
  let ⟨r, hr, hp⟩ := lookup_perm_scan hg m a ha
  ⟨r, hr, hp.mem_iff.mpr (List.mem_filter.mpr ⟨ht, hm⟩)⟩

/-- A predicate handed to a look-up matches stored predicates with the same identifier, the same
    kind and, when temporal, the same instant. -/
theorem matches_pred (q : PQ) (t : TView) :
    predMatches q t = true ↔
      q.pid = t.pid ∧ (q.pnano.isSome = t.pnano.isSome) ∧ (∀ a b, q.pnano = some a → t.pnano = some b → a = b) := by
  simp only [predMatches, Bool.and_eq_true, beq_iff_eq]
  refine and_congr_right fun _ => ?_
  cases q.pnano <;> cases t.pnano <;> simp

/-- After removal a triple is in no look-up result (combining the invariant and soundness). -/
theorem removed_not_returned {g : Graph} (hg : Inv memoryFacts g) (t : TView) (m : Method) (a : LArgs)
    (ha : argsOK m a = true) (r : List TView)
    (hr : (g.rem1 memoryFacts t).lookup memoryFacts m a {} = .ok r) :
    ∀ x ∈ r, x.key ≠ t.key := by
  intro x hx
  have := (lookup_sound (inv_rem1 facts_wf hg t) m a ha r hr x hx).1
  rw [master_rem1 facts_wf] at this
  exact bne_iff_ne.mp (List.mem_filter.mp this).2

/-! Non-vacuity -/
example : Inv memoryFacts Graph.empty := inv_empty _
example : argsOK .objects { s := [1], p := some ⟨[2], none, []⟩ } = true := by decide

end BW.Props.C02

#print axioms BW.Props.C02.facts_wf
#print axioms BW.Props.C02.lookup_eq_scan_default
#print axioms BW.Props.C02.lookup_perm_scan
#print axioms BW.Props.C02.lookup_sound
#print axioms BW.Props.C02.lookup_complete
#print axioms BW.Props.C02.matches_pred
#print axioms BW.Props.C02.removed_not_returned
