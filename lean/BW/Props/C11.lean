/-
C11 — GROUP BY yields one row per group with correct count, distinct count and sum.
-/
import BW.Proofs.QueryPost
import BW.Proofs.Lists
import BW.Proofs.HooksHead
import BW.Proofs.GroupKey

namespace BW.Props.C11
open BW.Model BW.Proofs.QueryPost BW.Proofs.Lists

/-- Rows are partitioned by their combination of grouping values, whatever kinds a grouping column
    mixes: every group is non-empty and uniform in its id, every row is in the group of its id … -/
theorem groups_partition (S : Strs) (keys : List Bytes) (rows : List Row) :
    (∀ g ∈ gather S keys rows, g ≠ [] ∧ ∃ i, ∀ r ∈ g, r ∈ rows ∧ groupId S keys r = i) ∧
    (∀ r ∈ rows, ∃ g ∈ gather S keys rows, r ∈ g) := by
  have ids : ∀ i, i ∈ (rows.map (groupId S keys)).foldl (fun acc i => if acc.contains i then acc else acc ++ [i]) [] ↔
      ∃ r ∈ rows, groupId S keys r = i := fun i => by
    rw [mem_foldl_keepFirst, List.mem_map]
    exact ⟨fun h => h.resolve_left List.not_mem_nil, Or.inr⟩
  unfold gather
  constructor
  · intro g hg
    obtain ⟨i, hi, rfl⟩ := List.mem_map.mp hg
    obtain ⟨r0, hr0, hr0i⟩ := (ids i).mp hi
    refine ⟨List.ne_nil_of_mem (List.mem_filter.mpr ⟨hr0, beq_iff_eq.mpr hr0i⟩), i, fun r hr => ?_⟩
    exact ⟨(List.mem_filter.mp hr).1, beq_iff_eq.mp (List.mem_filter.mp hr).2⟩
  · intro r hr
    exact ⟨_, List.mem_map.mpr ⟨groupId S keys r, (ids _).mpr ⟨r, hr, rfl⟩, rfl⟩, List.mem_filter.mpr ⟨hr, beq_self_eq_true _⟩⟩

/-- … and the group ids `gather` maps over are pairwise different: one group, hence (`groupReduceWith` is a `mapM`
    over the groups) one result row, per distinct combination. -/
theorem one_row_per_group (S : Strs) (keys : List Bytes) (rows : List Row) :
    ((rows.map (groupId S keys)).foldl (fun acc i => if acc.contains i then acc else acc ++ [i]) []).Nodup :=
  nodup_foldl_keepFirst _ [] List.nodup_nil

/-- count is the number of solutions in the group. -/
theorem count_correct (S : Strs) (fa : Nat → Nat → Nat) (first : Row) (b a : Bytes) (grp : List Row) :
    aggregate S fa first { binding := b, alias := a, op := .count, distinct := false } grp = .ok (.lit (.int grp.length)) := by
  simp [aggregate, aggregateWith]

/-- count(distinct) is `distinctCount`: the number of different `cellKey`s (the printed value; anchors by their
    instant, e012813) — read off its definition, a keep-first fold, not proved apart. -/
theorem count_distinct_correct (S : Strs) (fa : Nat → Nat → Nat) (first : Row) (b a : Bytes) (grp : List Row) :
    aggregate S fa first { binding := b, alias := a, op := .count, distinct := true } grp =
      .ok (.lit (.int (distinctCount S (grp.map fun r => (r.get b).getD .null)))) := by
  simp [aggregate, aggregateWith]

/-- When the pattern has no solutions the result is empty, not a failure. -/
theorem empty_group_by (S : Strs) (fa : Nat → Nat → Nat) (st : Stmt) : groupReduce S fa st [] = .ok [] := by
  simp [groupReduce, groupReduceWith]

/-- sum over int64 values: whenever the engine answers, the answer is the arithmetic sum of the group's values —
    for every group, no range restriction: a sum that is not an int64 is an error (09a61fb, 4abc0e2; the pinned tree
    wrapped: the sum of 9223372036854775807 and 1 was -9223372036854775808). -/
theorem sum_is_arithmetic (S : Strs) (fa : Nat → Nat → Nat) (first : Row) (b a : Bytes) (grp : List Row) (x v : Int)
    (hfirst : first.get b = some (.lit (.int x)))
    (h : aggregate S fa first { binding := b, alias := a, op := .sum } grp = .ok (.lit (.int v))) :
    ∃ xs, intCells (grp.map fun r => (r.get b).getD .null) = .ok xs ∧ v = xs.foldl (· + ·) 0 := by
  simp only [aggregate, aggregateWith, hfirst] at h
  cases hb : intCells (grp.map fun r => (r.get b).getD .null) >>= sumEngine with
  | error e => rw [hb] at h; cases h
  | ok w =>
    rw [hb] at h
    cases h
    obtain ⟨xs, hc, hs⟩ := bind_eq_ok.mp hb
    refine ⟨xs, hc, ?_⟩
    rw [sumEngine] at hs
    split at hs
    · exact (Except.ok.inj hs).symm
    · cases hs

/-- … and the engine answers whenever that sum is an int64, whatever the running sums (4abc0e2). Deciding on them
    made the outcome depend on the ORDER of the rows of a group, which the planner does not fix:
    9223372036854775802, 10, -10 had a sum in one order and failed in another. -/
theorem sum_defined (xs : List Int) (h : inInt64 (xs.foldl (· + ·) 0) = true) :
    sumEngine xs = .ok (xs.foldl (· + ·) 0) := by
  simp only [sumEngine, h, if_true]

/-- The outcome of a sum — value or overflow error — does not depend on the order of the rows of the group. -/
theorem sum_is_order_independent (xs ys : List Int) (h : xs.Perm ys) : sumEngine xs = sumEngine ys := by
  simp only [sumEngine, h.foldl_eq' (fun _ _ _ _ z => Int.add_right_comm z _ _) 0]

/-- The reference's sum (the positive values and the negative values summed apart) is the engine's sum. -/
theorem reference_sum_is_engine_sum (xs : List Int) : sumExact xs = sumEngine xs := by
  simp only [sumExact, sumEngine, pos_neg_total]

/-- Non-vacuity, at the edge of int64: 2^63-1 + 1 is an error; 2^62 + 2^62 - 1 is not; a running
    sum may leave int64 and come back. -/
example : sumEngine [9223372036854775807, 1] = .error .sumOverflow ∧
    sumEngine [4611686018427387904, 4611686018427387903] = .ok 9223372036854775807 ∧
    sumEngine [9223372036854775802, 10, -10] = .ok 9223372036854775802 := ⟨rfl, rfl, rfl⟩

/-- `Table.Reduce` writes every grouping value as `<length>:<value>;` (7f64a50; the pinned tree joined the values
    with `;`, so `("a;b","c")` and `("a","b;c")` were one group): two rows get the same key string exactly when
    their lists of component keys — the model's `groupId` — are equal, whatever bytes the values hold. -/
theorem group_key_identifies_the_values (ks ks' : List Bytes) :
    BW.Proofs.GroupKey.encKey ks = BW.Proofs.GroupKey.encKey ks' ↔ ks = ks' :=
  ⟨BW.Proofs.GroupKey.encKey_inj ks ks', fun h => by rw [h]⟩

/-- … which joining with `;` did not: the two lists `["a;b", "c"]` and `["a", "b;c"]` give `a;b;c;`. -/
example : ([[97, 59, 98], [99]] : List Bytes).flatMap (fun k => k ++ [59]) = ([[97], [98, 59, 99]] : List Bytes).flatMap (fun k => k ++ [59]) := by
  decide

/-- GROUP BY means what it says: the keys the semantic hook (`groupByBindings`) collects are the bindings
    listed, in order; `GROUP`, `BY` and the commas change nothing. -/
theorem group_by_means_its_tokens (gs : List Bytes) (h : BW.Model.Hooks.Head) :
    (BW.Proofs.HooksHead.tk .other :: BW.Proofs.HooksHead.tk .other :: BW.Proofs.HooksHead.commaToks gs).foldl BW.Model.Hooks.groupStep h
      = { h with groupBy := h.groupBy ++ gs } :=
  by
  open BW.Model.Hooks BW.Proofs.HooksHead in
  show (commaToks gs).foldl groupStep h = _
  fun_induction commaToks gs generalizing h <;> simp_all [groupStep, tk]

/-! Non-vacuity: three rows holding 1, 2, 1 under the key make two groups. -/
example : (gather { pred := fun _ => [], time := fun _ => [], lit := fun _ => [] } [[63]] [[([63], Cell.str [1])], [([63], Cell.str [2])], [([63], Cell.str [1])]]).length = 2 := by decide

end BW.Props.C11

#print axioms BW.Props.C11.groups_partition
#print axioms BW.Props.C11.one_row_per_group
#print axioms BW.Props.C11.count_correct
#print axioms BW.Props.C11.count_distinct_correct
#print axioms BW.Props.C11.empty_group_by
#print axioms BW.Props.C11.sum_is_arithmetic
#print axioms BW.Props.C11.sum_defined
#print axioms BW.Props.C11.sum_is_order_independent
#print axioms BW.Props.C11.reference_sum_is_engine_sum
#print axioms BW.Props.C11.group_by_means_its_tokens
#print axioms BW.Props.C11.group_key_identifies_the_values
