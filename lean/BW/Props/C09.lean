/-
C09 — Lookup options: time window, filter functions and paging select as defined.
-/
import BW.Proofs.Lookup
import BW.Generated.MemoryFacts

namespace BW.Props.C09
open BW.Model BW.Spec BW.Proofs.Store BW.Proofs.Lookup BW.Generated

/-- As `C01.facts_wf`. -/
theorem facts_wf : Facts.WF memoryFacts = true := by decide +kernel

/-- For all options, every look-up equals the declarative definition
    `page n k (sortByStr (filt (window candidates)))` or the documented error
    (LatestAnchor together with FilterOptions; a filter on the subject field; an unknown operation). -/
theorem lookup_opts {g : Graph} (hg : Inv memoryFacts g) (m : Method) (a : LArgs) (lo : LookupOpts)
    (ha : argsOK m a = true) (hp : 0 < lo.maxElements ∨ lo.maxElements * lo.offset ≤ 0) :
    g.lookup memoryFacts m a lo = scanLookup g.master m a lo :=
  lookup_eq_scan facts_wf hg m a lo ha hp

/-- The window is the closed interval; an absent side is unbounded; immutable triples always pass. -/
theorem window_closed (lo : LookupOpts) (t : TView) :
    inWindow lo t = true ↔
      (t.pnano = none ∨ ∃ a, t.pnano = some a ∧ (∀ l, lo.lower = some l → l ≤ a) ∧ (∀ u, lo.upper = some u → a ≤ u)) := by
  unfold inWindow
  cases t.pnano with
  | none => simp
  | some a => cases lo.lower <;> cases lo.upper <;> simp

/-- isImmutable / isTemporal keep exactly the triples whose predicate (or predicate-valued object)
    is of that kind; other objects are dropped. -/
theorem filt_kind (f : FilterField) (c : List TView) (t : TView) :
    (t ∈ filt ⟨.isImmutable, f⟩ c ↔ t ∈ c ∧ ∃ pid, filterPred f t = some (pid, none)) ∧
    (t ∈ filt ⟨.isTemporal, f⟩ c ↔ t ∈ c ∧ ∃ pid a, filterPred f t = some (pid, some a)) := by
  simp only [filt, kindOfField, List.mem_filter]
  rcases filterPred f t with _ | ⟨_, _ | _⟩ <;> simp

/-- latest keeps, per predicate identifier, the temporal candidates with the greatest anchor
    (ties kept). -/
theorem filt_latest (f : FilterField) (c : List TView) (t : TView) :
    t ∈ filt ⟨.latest, f⟩ c ↔
      t ∈ c ∧ ∃ pid a, filterPred f t = some (pid, some a) ∧
        ∀ u ∈ c, ∀ a', filterPred f u = some (pid, some a') → a' ≤ a := by
  simp only [filt, latestOf, List.mem_filter]
  refine and_congr_right fun _ => ?_
  rcases filterPred f t with _ | ⟨pid, _ | a⟩
  · simp
  · simp
  · simp only [List.all_eq_true, Option.some.injEq, Prod.mk.injEq]
    constructor
    · refine fun h => ⟨pid, a, ⟨rfl, rfl⟩, fun u hu a' hpu => ?_⟩
      simpa [hpu, Int.not_lt] using h u hu
    · rintro ⟨_, _, ⟨rfl, rfl⟩, h⟩ u hu
      rcases hpu : filterPred f u with _ | ⟨pid', _ | a'⟩ <;> try rfl
      by_cases hpid : pid' = pid
      · simpa [hpid, Int.not_lt] using h u hu a' (hpid ▸ hpu)
      · simp [hpid]

/-- The paging state machine of the checker is exactly "k-th block of n". -/
theorem checker_is_page (lo : LookupOpts) (l : List TView)
    (h : 0 < lo.maxElements ∨ lo.maxElements * lo.offset ≤ 0) :
    emit (Pager.new lo) l = page lo.maxElements lo.offset l :=
  BW.Proofs.Lookup.checker_is_page lo l h

/-- Page `k` is the segment `[n*k, n*k+n)`: pages at different offsets are disjoint as positions. -/
theorem page_segment (n k : Nat) (l : List TView) (hn : 0 < n) :
    page (n : Int) (k : Int) l = (l.drop (n * k)).take n := by
  rw [page, if_neg (by omega), ← Int.natCast_mul, Int.toNat_natCast, Int.toNat_natCast]

/-- Consecutive pages concatenate to a prefix of the unpaged result: the first `j` pages are its first `n*j`
    elements. -/
theorem pages_prefix (n : Nat) (l : List TView) (j : Nat) (hn : 0 < n) :
    ((List.range j).map fun (k : Nat) => page (n : Int) (k : Int) l).flatten = l.take (n * j) := by
  induction j with
  | zero => simp
  | succ j ih =>
    rw [List.range_succ, List.map_append, List.flatten_append, ih, List.map_singleton, List.flatten_singleton,
      page_segment n j l hn, Nat.mul_succ]
    exact List.take_add.symm

/-- Once `n*j` reaches the length of the unpaged result, its first `j` pages concatenate to the whole of it. -/
theorem pages_partition (n : Nat) (l : List TView) (j : Nat) (hn : 0 < n) (hj : l.length ≤ n * j) :
    ((List.range j).map fun (k : Nat) => page (n : Int) (k : Int) l).flatten = l := by
  rw [pages_prefix n l j hn, List.take_of_length_le hj]

/-- Order of the stages: window, then filter, then paging — the look-up is literally their
    composition (read off `scanLookup`). -/
theorem order_bounds_filter_limit (g : SGraph) (m : Method) (a : LArgs) (lo : LookupOpts) (fo : FilterOpts)
    (h1 : lo.latestAnchor = false) (h2 : lo.filter = some fo) (h3 : fo.op ≠ .unknown)
    (h4 : fo.field = .predicate ∨ fo.field = .object) :
    scanLookup g m a lo =
      .ok (page lo.maxElements lo.offset (sortByStr (filt fo ((g.filter (matchesArgs m a)).filter (inWindow lo))))) := by
  have h3' : (fo.op == FilterOp.unknown) = false := by simp [h3]
  have h4' : (fo.field != .predicate && fo.field != .object) = false := by
    rcases h4 with h | h <;> simp [h]
  simp [scanLookup, h1, h2, h3', h4']

/-! Non-vacuity -/
example : (0 : Int) < ({ maxElements := 2, offset := 1 } : LookupOpts).maxElements ∨
    ({ maxElements := 2, offset := 1 } : LookupOpts).maxElements * ({ maxElements := 2, offset := 1 } : LookupOpts).offset ≤ 0 :=
  Or.inl (by decide)

end BW.Props.C09

#print axioms BW.Props.C09.facts_wf
#print axioms BW.Props.C09.lookup_opts
#print axioms BW.Props.C09.window_closed
#print axioms BW.Props.C09.filt_kind
#print axioms BW.Props.C09.filt_latest
#print axioms BW.Props.C09.checker_is_page
#print axioms BW.Props.C09.pages_prefix
#print axioms BW.Props.C09.pages_partition
#print axioms BW.Props.C09.page_segment
#print axioms BW.Props.C09.order_bounds_filter_limit
