/-
C08 — Any statement text yields a table or an error: no crash, hang or leak.

What a theorem can carry here, and what it cannot.  PROVED:
  * lexing ends, for every text, with exactly one final token (end of input or an error) — `lex_total`
    (C16's `lex_one_terminal`, on the lexer model tied to lexer.go's tables);
  * parsing ends, for every token sequence, within `n·(M+1)+2` machine steps, `M` a bound on the length
    of the alternatives of the grammar table regenerated from `grammar.BQL()` — `parse_terminates`,
    `parser_decides` (the parser model never runs out of that fuel: it accepts or rejects);
  * no goroutine started for a call outlives it, at the four channel hand-overs of the engine (lexer → parser;
    driver → relay; relay → row builder; CONSTRUCT loop → bulk writer): for every number of items, channel
    capacity, point at which the consumer loses interest or the producer gives up, every execution of the life-cycle
    model ends with both goroutines ended — `*_no_goroutine_left`, under the policies the `concfacts` translator
    reads off the source (`site_facts`); and the converse (`leak_if_*`): without the drain / the close a goroutine
    IS left behind.
NOT provable about a model: that the Go code does not panic (nil dereference, slice bounds,
makeslice), that driver calls return, that the runtime schedules fairly.  Those are covered by the
correspondence only: every generated text (all token sequences up to a length, grammar-generated and
semantically valid statements, byte- and token-level mutations, random bytes) is executed by the real
engine against an empty and a populated store under a watchdog, with the goroutine count compared
before and after, and the accept/reject decision compared with the lexer+parser model.  — partial.
-/
import BW.Proofs.Termination
import BW.Proofs.Conc
import BW.Proofs.Lexer
import BW.Proofs.GrammarFacts
import BW.Generated.ConcFacts
import BW.Model.BqlLex

namespace BW.Props.C08
open BW.Model BW.Generated BW.Model.Conc BW.Proofs.Conc

/-- A bound on the length of the alternatives of the regenerated grammar table (`alts_bounded`), not
    their maximum (that is `maxAltLen bql allSyms`). -/
def M : Nat := 12

theorem alts_bounded : ∀ x, ∀ alt ∈ bql.rules x, alt.length ≤ M := by
  have h : (allSyms.all fun s => (bql.rules s).all fun a => decide (a.length ≤ M)) = true := by decide +kernel
  simp only [List.all_eq_true, decide_eq_true_eq] at h
  exact fun x => h x (BW.Proofs.GrammarFacts.allSyms_complete x)

theorem parse_terminates (ts : List Tok) (f : Nat) (hf : ts.length * (M + 1) + 2 ≤ f) : parseKinds bql f ts ≠ .nofuel :=
  BW.Proofs.Termination.parse_terminates bql BW.Proofs.GrammarFacts.bql_no_eof M alts_bounded ts f hf

theorem parser_decides (ts : List Tok) :
    (∃ rest evs, parseKinds bql (ts.length * (M + 1) + 2) ts = .accept rest evs) ∨
    (∃ evs, parseKinds bql (ts.length * (M + 1) + 2) ts = .reject evs) := by
  have h := parse_terminates ts _ (Nat.le_refl _)
  cases hp : parseKinds bql (ts.length * (M + 1) + 2) ts with
  | accept rest evs => exact Or.inl ⟨rest, evs, rfl⟩
  | reject evs => exact Or.inr ⟨evs, rfl⟩
  | nofuel => exact absurd hp h

/-- Regenerated obligation, as `C16.tables_wf`. -/
theorem tables_wf : BW.Proofs.Lexer.TablesWF bqlLex := by
  unfold BW.Proofs.Lexer.TablesWF
  decide +kernel

theorem lex_total (input : List Rune) : BW.Proofs.Lexer.OneTerminal bqlLex (lex bqlLex input) :=
  BW.Proofs.Lexer.lexLoop_oneTerminal bqlLex tables_wf _ _ _ _ (Nat.lt_succ_self _)

theorem site_facts :
    concFacts.parserDrains = true ∧ concFacts.lexerCloses = true ∧ concFacts.addTriplesDrains = true ∧
    concFacts.relayCloses = true ∧ concFacts.constructFinishes = true ∧ concFacts.memoryCloses = true ∧
    concFacts.updateWaits = true := by decide

/-- lexer goroutine → LLk / Parser.Parse -/
def lexerParser : Policy := ⟨concFacts.parserDrains, concFacts.lexerCloses⟩
/-- storage driver lookup → the relay loop of simpleFetch (a `for range` over the driver's channel) -/
def driverRelay : Policy := ⟨true, concFacts.memoryCloses⟩
/-- relay loop → addTriples -/
def relayRows : Policy := ⟨concFacts.addTriplesDrains, concFacts.relayCloses⟩
/-- constructPlan.Execute → its bulk writer (which ranges over the channel until it is closed) -/
def constructWriter : Policy := ⟨true, concFacts.constructFinishes⟩

/-- However many tokens the text has, whatever the channel capacity and wherever the parser stops
    reading: once nothing can move, the lexer goroutine and the parser have both ended. -/
theorem lexer_parser_no_goroutine_left (n cap want : Nat) (s : PC) (h : Reach lexerParser (init n cap want) s) :
    leaked lexerParser s = false ∧ (stuck lexerParser s = true → s.final = true) ∧ work s ≤ work (init n cap want) :=
  let ⟨hl, hf⟩ := no_goroutine_left _ rfl rfl n cap want s h
  ⟨hl, hf, reach_work _ _ _ h⟩

theorem driver_relay_no_goroutine_left (n cap want : Nat) (s : PC) (h : Reach driverRelay (init n cap want) s) :
    leaked driverRelay s = false ∧ (stuck driverRelay s = true → s.final = true) :=
  no_goroutine_left _ rfl rfl n cap want s h

theorem relay_rows_no_goroutine_left (n cap want : Nat) (s : PC) (h : Reach relayRows (init n cap want) s) :
    leaked relayRows s = false ∧ (stuck relayRows s = true → s.final = true) :=
  no_goroutine_left _ rfl rfl n cap want s h

theorem construct_writer_no_goroutine_left (n cap want : Nat) (s : PC) (h : Reach constructWriter (init n cap want) s) :
    leaked constructWriter s = false ∧ (stuck constructWriter s = true → s.final = true) :=
  no_goroutine_left _ rfl rfl n cap want s h

/-- No execution of a hand-over is infinite: every step uses up work. -/
theorem every_step_uses_work (p : Policy) (s t : PC) (h : t ∈ steps p s) : work t < work s := step_decreases p s t h

/-- The drain matters: a parser that walks away leaves the lexer goroutine blocked on its send (D11, repaired). Any
    number of unsent tokens, unbuffered channel. -/
theorem leak_if_parser_walks_away (n : Nat) (hn : 0 < n) :
    ∃ s, Reach ⟨false, true⟩ (init n 0 0) s ∧ leaked ⟨false, true⟩ s = true := by
  refine ⟨{ init n 0 0 with done := true }, .step _ _ _ (.refl _) (List.mem_append_left _ ?_), ?_⟩
  · exact mem_commSteps.mpr (.finish ⟨rfl, .inl ⟨rfl, rfl⟩⟩)
  · have : ¬ n = 0 := by omega
    simp [leaked, stuck, commSteps, init, PC.prodEnded, PC.receiving, PC.final, this]

/-- The close matters: a CONSTRUCT loop that gives up (a template error) and returns without closing leaves its
    draining writer blocked on its receive (D28, repaired). -/
theorem leak_if_writer_not_closed (n cap want : Nat) (hn : 0 < n) :
    ∃ s, Reach ⟨true, false⟩ (init n cap want) s ∧ leaked ⟨true, false⟩ s = true := by
  refine ⟨{ init n cap want with toSend := 0, gone := true }, .step _ _ _ (.refl _) (List.mem_append_right _ ?_), ?_⟩
  · exact mem_abortSteps.mpr ⟨⟨rfl, hn⟩, rfl⟩
  · simp [leaked, stuck, commSteps, init, PC.prodEnded, PC.receiving, PC.final]

/-! Non-vacuity: the start configurations are neither final nor stuck (two tokens, unbuffered, a parser that wants one:
    the hand-over or the give-up; no token at all: the close). -/
example : (steps lexerParser (init 2 0 1)).length = 2 := by decide
example : (init 0 0 0).final = false ∧ stuck lexerParser (init 0 0 0) = false := by decide

end BW.Props.C08

#print axioms BW.Props.C08.parse_terminates
#print axioms BW.Props.C08.parser_decides
#print axioms BW.Props.C08.lex_total
#print axioms BW.Props.C08.site_facts
#print axioms BW.Props.C08.lexer_parser_no_goroutine_left
#print axioms BW.Props.C08.driver_relay_no_goroutine_left
#print axioms BW.Props.C08.relay_rows_no_goroutine_left
#print axioms BW.Props.C08.construct_writer_no_goroutine_left
#print axioms BW.Props.C08.every_step_uses_work
#print axioms BW.Props.C08.leak_if_parser_walks_away
#print axioms BW.Props.C08.leak_if_writer_not_closed
