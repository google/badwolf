/-
C17 — Every alternative of every BQL grammar rule is live and chosen by one token.

The grammar is a finite table regenerated from `/repo` on every run (`BW/Generated/Grammar.lean`,
written by `bwh gramdump`, which *runs* `grammar.BQL()` and `grammar.SemanticBQL()`); the quantifier
of the property is that table, so kernel evaluation over the whole table is a proof.
-/
import BW.Proofs.GrammarFacts

namespace BW.Props.C17
open BW.Model BW.Generated

theorem allSyms_complete : ∀ s : Sym, s ∈ allSyms := BW.Proofs.GrammarFacts.allSyms_complete

/-- Within each rule the non-empty alternatives begin with pairwise different tokens (never with a
    symbol), at most one alternative is empty and it is the last one tried. -/
theorem bql_alts_wf : ∀ s ∈ allSyms, altsWF (bql.rules s) = true := by decide +kernel

/-- Every rule that is referenced exists (has at least one alternative). -/
theorem bql_closed : closedB bql allSyms = true := by decide +kernel

/-- Every rule is reachable from the start rule. -/
theorem bql_reachable : reachCertOK bql allSyms reachOrder = true := by decide +kernel

/-- Every rule derives at least one finite statement. -/
theorem bql_productive : prodCertOK bql allSyms prodOrder = true := by decide +kernel

/-- No rule mentions the end-of-input token (as `NoEofG`, the hypothesis of the parser theorems: soundness in C18,
    termination in C08). -/
theorem bql_no_eof : noEofB bql allSyms = true := BW.Proofs.GrammarFacts.bql_no_eof_b

/-- The grammar with semantic hooks has exactly the rules and alternatives of the plain grammar. -/
theorem semantic_same_shape : sameShapeB bql semanticBql allSyms = true := by decide +kernel

/-- For each alternative of each rule there is a concrete statement (token sequence) that
    the (model) parser accepts, consuming it completely, by taking that alternative. The witnesses
    are proposed by the translator and checked here; the harness replays each through the real
    parser and compares the alternatives fired. -/
theorem every_alt_fires : everyAltWitnessed bql allSyms 4096 witnesses = true :=
  BW.Proofs.Parser.everyAltWitnessed_of_aligned _ _ _ _ (by decide +kernel) (by decide +kernel)

end BW.Props.C17

#print axioms BW.Props.C17.allSyms_complete
#print axioms BW.Props.C17.bql_alts_wf
#print axioms BW.Props.C17.bql_closed
#print axioms BW.Props.C17.bql_reachable
#print axioms BW.Props.C17.bql_productive
#print axioms BW.Props.C17.bql_no_eof
#print axioms BW.Props.C17.semantic_same_shape
#print axioms BW.Props.C17.every_alt_fires
