/-
C13 — HAVING keeps exactly the rows satisfying its boolean expression.
-/
import BW.Proofs.QueryPost
import BW.Proofs.Having

namespace BW.Props.C13
open BW.Model BW.Proofs.QueryPost

/-- HAVING keeps exactly the rows for which its expression is true and leaves them unchanged and in
    order (when no row raises an evaluation error; an error fails the query). -/
theorem having_filter (S : Strs) (e : HExpr) (rows : List Row) (f : Row → Bool)
    (hf : ∀ r ∈ rows, evalH S r e = .ok (f r)) : havingFilter S e rows = .ok (rows.filter f) :=
  havingFilter_spec S e rows f hf

/-- NOT, AND, OR have their usual truth-functional meaning. -/
theorem not_truth (S : Strs) (r : Row) (e : HExpr) (b : Bool) (h : evalH S r e = .ok b) : evalH S r (.not e) = .ok (!b) := by
  simp [evalH, h, Except.map]
theorem and_truth (S : Strs) (r : Row) (e₁ e₂ : HExpr) (a b : Bool) (h₁ : evalH S r e₁ = .ok a) (h₂ : evalH S r e₂ = .ok b) :
    evalH S r (.and e₁ e₂) = .ok (a && b) := by
  cases a <;> simp [evalH, h₁, h₂, bind, Except.bind, pure, Except.pure]
theorem or_truth (S : Strs) (r : Row) (e₁ e₂ : HExpr) (a b : Bool) (h₁ : evalH S r e₁ = .ok a) (h₂ : evalH S r e₂ = .ok b) :
    evalH S r (.or e₁ e₂) = .ok (a || b) := by
  cases a <;> simp [evalH, h₁, h₂, bind, Except.bind, pure, Except.pure]

/-- Numbers compare numerically: `?n < "j"^^type:int64` holds exactly when n < j. -/
theorem compare_int_numeric (S : Strs) (r : Row) (l : Bytes) (i j : Int) (h : r.get l = some (.lit (.int i))) :
    evalH S r (.cmpLit .lt l (some (.int j))) = .ok (decide (i < j)) := by
  simp only [evalH, h, compareCells, comparableCell, bind, Except.bind, applyOp, Except.ok.injEq]
  rw [Bool.eq_iff_iff, beq_iff_eq, Int.compare_eq_lt, decide_eq_true_iff]

/-- A comparison of a value with a constant of a different kind never holds — two instances: a node against any
    literal constant, an int64 against a text constant. -/
theorem other_kind_never_holds (S : Strs) (r : Row) (o : HOp) (l : Bytes) (n : Node) (c : Lit)
    (h : r.get l = some (.node n)) : evalH S r (.cmpLit o l (some c)) = .ok false := by
  simp [evalH, h]
theorem int_vs_text_never_holds (S : Strs) (r : Row) (o : HOp) (l : Bytes) (i : Int) (t : Bytes)
    (h : r.get l = some (.lit (.int i))) : evalH S r (.cmpLit o l (some (.text t))) = .ok false := by
  simp [evalH, h, compareCells, comparableCell, bind, Except.bind]

/-- The builder accepts `binding op operand`, `NOT e`, `(e)`, `(e) AND/OR e` — witnesses. -/
example : (newEvaluator [.binding [63], .op .lt, .lit (some (.int 1))]).isSome = true := by decide
example : (newEvaluator [.not, .lpar, .binding [63], .op .eq, .binding [64], .rpar, .and, .binding [63], .op .gt, .lit (some (.int 2))]).isSome = true := by decide
/-- … and rejects what it cannot build, e.g. `a = b AND c = d` without parentheses. -/
example : (newEvaluator [.binding [63], .op .eq, .binding [64], .and, .binding [65], .op .eq, .binding [66]]).isSome = false := by decide

/-- Whenever `NewEvaluator` accepts the tokens of a HAVING clause, the expression it builds is the reference reading
    of those tokens (`BW.Spec.specH`: comparisons are atoms, `NOT` covers everything to its right, `AND` / `OR` nest
    to the right) — of all of them, or of all but the one closing parenthesis `NewEvaluator` tolerates at the end (the
    grammar never derives such a list). Where the engine refuses a token list the reference can read (a comparison
    without parentheses followed by `AND` / `OR`) the statement is rejected; an implementation that accepts it is
    compared with the reference's reading (tie). -/
theorem evaluator_is_the_parse_tree (toks : List HTok) (e : HExpr) (h : newEvaluator toks = some e) :
    BW.Spec.specEvaluator toks = some e ∨ BW.Spec.specH (toks.length + 1) toks = some (e, [.rpar]) := by
  unfold newEvaluator at h
  split at h
  · rename_i hb
    cases h
    left
    unfold BW.Spec.specEvaluator
    rw [BW.Proofs.Having.buildH_eq_specH _ _ _ _ hb trivial]
  · rename_i hb
    cases h
    exact Or.inr (BW.Proofs.Having.buildH_eq_specH _ _ _ _ hb trivial)
  · cases h

/-- Non-vacuity: `(?a = ?b) and not ?c < ?d` is accepted and read as `and (= a b) (not (< c d))`; the reference
    also reads `?a = ?b and ?c = ?d`, which the engine refuses. -/
example : (newEvaluator [.lpar, .binding [97], .op .eq, .binding [98], .rpar, .and, .not, .binding [99], .op .lt, .binding [100]]).isSome = true ∧
    (BW.Spec.specEvaluator [.binding [97], .op .eq, .binding [98], .and, .binding [99], .op .eq, .binding [100]]).isSome = true := by decide

end BW.Props.C13

#print axioms BW.Props.C13.having_filter
#print axioms BW.Props.C13.not_truth
#print axioms BW.Props.C13.and_truth
#print axioms BW.Props.C13.or_truth
#print axioms BW.Props.C13.compare_int_numeric
#print axioms BW.Props.C13.other_kind_never_holds
#print axioms BW.Props.C13.int_vs_text_never_holds
#print axioms BW.Props.C13.evaluator_is_the_parse_tree
