/-
C16 — The lexer tokenizes every input faithfully: ordered substrings, one end token.

Model: `BW.Model.Lexer` driven by the keyword / single-symbol / literal-type tables regenerated from
lexer.go's AST; runes arrive classified by Go's own unicode package.  For every input (any rune list, any
classification): `lex_one_terminal`, `lex_substrings`; keyword matching reads only the fold classes
(`kw_case_insensitive`); white space at a token boundary is invisible (`ws_invariant`).  The printed form of a
value, alone, is one token carrying that text (`printed_*_is_one_token`, `blank_node_is_one_token`), outside the
known findings D36 and D38.
-/
import BW.Model.BqlLex
import BW.Proofs.Lexer
import BW.Proofs.LexPrinted

namespace BW.Props.C16
open BW.Model BW.Generated BW.Proofs.Lexer

/-- Regenerated obligation: no keyword or single-symbol entry names the EOF / ERROR kinds. -/
theorem tables_wf : TablesWF bqlLex := by
  unfold TablesWF
  decide +kernel

/-- Regenerated obligation: the keywords are non-empty lower-case ASCII words, pairwise different. -/
def keywordsLowerAscii : Bool :=
  lexKeywords.all fun p => !p.1.isEmpty && p.1.all fun c => decide (97 ≤ c ∧ c ≤ 122)
theorem keywords_lower_ascii : keywordsLowerAscii = true := by decide +kernel
theorem keywords_distinct : (lexKeywords.map (·.1)).Nodup := by decide +kernel

/-- Termination with exactly one terminal token: for every input the lexer emits a body free of end-of-input and
    error tokens followed by exactly one of them.  (So the fuel `|input|+1` never runs out: that answers `[]`.) -/
theorem lex_one_terminal (input : List Rune) : OneTerminal bqlLex (lex bqlLex input) :=
  lexLoop_oneTerminal bqlLex tables_wf _ _ _ _ (Nat.lt_succ_self _)

/-- Token texts are non-overlapping substrings of the input in left-to-right order. -/
theorem lex_substrings (input : List Rune) : Ordered ((lex bqlLex input).map (·.2)) input :=
  lexLoop_ordered bqlLex _ _ [] input (Nat.lt_succ_self _)

/-- The same two facts from any token boundary, whatever the previous token kind and pending junk. -/
theorem lex_from_boundary (last : Tok) (pending rest : List Rune) :
    OneTerminal bqlLex (lexLoop bqlLex (rest.length + 1) last pending rest) ∧
    Ordered ((lexLoop bqlLex (rest.length + 1) last pending rest).map (·.2)) (pending ++ rest) :=
  ⟨lexLoop_oneTerminal bqlLex tables_wf _ _ _ _ (Nat.lt_succ_self _),
   lexLoop_ordered bqlLex _ _ _ _ (Nat.lt_succ_self _)⟩

/-- Keywords are recognised regardless of letter case: whether a word matches a keyword depends only on the
    simple-fold classes of its runes (`hw`: a rune's own fold class is consistent, as Go's tables are). -/
theorem equalFold_fold_only (w : List Rune) (kw : List Nat)
    (hw : ∀ r ∈ w, 97 ≤ r.cp ∧ r.cp ≤ 122 → r.fold = r.cp - 32)
    (hk : ∀ c ∈ kw, 97 ≤ c ∧ c ≤ 122) :
    equalFold w kw = (w.map (·.fold) == kw.map foldAscii) := by
  induction w generalizing kw with
  | nil => cases kw <;> simp [equalFold]
  | cons r rs ih =>
    cases kw with
    | nil => simp [equalFold]
    | cons c cs =>
      simp only [List.mem_cons, forall_eq_or_imp] at hw hk
      -- on a lower-case ASCII letter, equal code points have equal fold classes: the first test of `EqualFold` adds nothing
      have hcp : (r.cp == c || r.fold == foldAscii c) = (r.fold == foldAscii c) := by
        by_cases e : r.cp = c
        · subst e; simp [foldAscii, hk.1, hw.1 hk.1]
        · simp [e]
      simp [equalFold, ih cs hw.2 hk.2, hcp]

theorem kw_case_insensitive (w w' : List Rune)
    (hw : ∀ r ∈ w, 97 ≤ r.cp ∧ r.cp ≤ 122 → r.fold = r.cp - 32)
    (hw' : ∀ r ∈ w', 97 ≤ r.cp ∧ r.cp ≤ 122 → r.fold = r.cp - 32)
    (hfold : w.map (·.fold) = w'.map (·.fold)) :
    findKeyword w lexKeywords = findKeyword w' lexKeywords := by
  have hk : ∀ p ∈ lexKeywords, ∀ c ∈ p.1, 97 ≤ c ∧ c ≤ 122 := by
    have := keywords_lower_ascii
    simp only [keywordsLowerAscii, List.all_eq_true, Bool.and_eq_true, decide_eq_true_eq] at this
    exact fun p hp => (this p hp).2
  -- true of any table of lower-case ASCII keywords
  generalize lexKeywords = kws at hk
  induction kws with
  | nil => rfl
  | cons p kws ih =>
    simp only [List.mem_cons, forall_eq_or_imp] at hk
    simp only [findKeyword, equalFold_fold_only _ _ hw hk.1, equalFold_fold_only _ _ hw' hk.1, hfold, ih hk.2]

/-- A rune Go classifies as white space and as nothing else that starts a token. -/
def PlainSpace (r : Rune) : Prop :=
  r.space = true ∧ r.digit = false ∧ r.letter = false ∧ r.cp ≠ 63 ∧ r.cp ≠ 47 ∧ r.cp ≠ 95 ∧ r.cp ≠ 34 ∧
    lookupSingle r.cp lexSingles = none

/-- White space at a token boundary changes nothing: skipping any amount of it leads to the same
    continuation (hence neither kinds nor texts of the following tokens change). -/
theorem ws_invariant (last : Tok) (ws rest : List Rune) (hws : ∀ r ∈ ws, PlainSpace r) (f : Nat) :
    lexLoop bqlLex (f + ws.length) last [] (ws ++ rest) = lexLoop bqlLex f last [] rest :=
  lexLoop_skip bqlLex last ws rest f hws

/-! Non-vacuity -/
def exSpace : Rune := { cp := 32, bytes := [32], letter := false, digit := false, space := true, lower := 32, fold := 32 }
example : PlainSpace exSpace := by
  refine ⟨rfl, rfl, rfl, by decide, by decide, by decide, by decide, by decide⟩

/-! ### The printed form of a value is one token carrying exactly that text -/

open BW.Proofs.LexPrinted

/-- `?name`. -/
theorem printed_binding_is_one_token (q : Rune) (name : List Rune) (hq : q.cp = 63) (hqd : q.digit = false)
    (hn : ∀ x ∈ name, isNameRune x = true) :
    lex bqlLex (q :: name) = [(.BINDING, q :: name), (.EOF, [])] :=
  lex_single bqlLex q name _ (by
    have h := dispatch_binding bqlLex .ERROR q name [] hq hqd hn nofun
    rwa [List.append_nil] at h)

/-- `/type<id>`: the type holds no `<`, `>`, `\`; the ID no `<`, `>` (what `node.NewID` accepts — backslashes
    anywhere, also last). The hypothesis on the type excludes a real point: `node.NewType` accepts `/a\`, whose node prints
    as `/a\<x>`, and the lexer — which reads `\<` as an escaped `<` — answers one ERROR token (known finding D38). -/
theorem printed_node_is_one_token (sl lt gt : Rune) (ty id : List Rune)
    (hsl : sl.cp = 47) (hsd : sl.digit = false) (hlt : lt.cp = 60) (hgt : gt.cp = 62)
    (hty : ∀ x ∈ ty, x.cp ≠ 60 ∧ x.cp ≠ 62 ∧ x.cp ≠ 92) (hid : ∀ x ∈ id, x.cp ≠ 60 ∧ x.cp ≠ 62) :
    lex bqlLex (sl :: (ty ++ lt :: (id ++ [gt]))) = [(.NODE, sl :: (ty ++ lt :: (id ++ [gt]))), (.EOF, [])] :=
  lex_single bqlLex sl _ _ (dispatch_node bqlLex .ERROR sl lt gt ty id [] hsl hsd hlt hgt hty hid)

/-- `_:name`. -/
theorem blank_node_is_one_token (u c l : Rune) (name : List Rune) (hu : u.cp = 95) (hud : u.digit = false)
    (hc : c.cp = 58) (hl : l.letter = true) (hn : ∀ x ∈ name, isNameRune x = true) :
    lex bqlLex (u :: c :: l :: name) = [(.BLANK_NODE, u :: c :: l :: name), (.EOF, [])] :=
  lex_single bqlLex u _ _ (by
    have h := dispatch_blank bqlLex .ERROR u c l name [] hu hud hc hl hn nofun
    rwa [List.append_nil] at h)

/-- `"id"@[anchor]` and `"id"@[lo,hi]`: the printed ID (`%q`) holds no `"` — plain runes, `\\` pairs and
    other escapes — the anchor part no `]` and at most one comma: PREDICATE without a comma, PREDICATE_BOUND with
    one. (Before ed4a530 an ID ending with a backslash was refused: `PBody.pair` is what the repair added.) -/
theorem printed_predicate_is_one_token (q q2 at_ lb rb : Rune) (body anchor : List Rune)
    (hq : Delim q 34) (hqd : q.digit = false) (hq2 : Delim q2 34) (hat : Delim at_ 64) (hlb : Delim lb 91) (hrb : rb.cp = 93)
    (hbody : PBody body) (hok : ∀ r ∈ body, RuneOK r) (ha : ∀ x ∈ anchor, x.cp ≠ 93) (hc : commaCount anchor ≤ 1) :
    lex bqlLex (q :: (body ++ q2 :: at_ :: lb :: (anchor ++ [rb]))) =
      [(if commaCount anchor == 0 then .PREDICATE else .PREDICATE_BOUND, q :: (body ++ q2 :: at_ :: lb :: (anchor ++ [rb]))), (.EOF, [])] :=
  lex_single bqlLex q _ _ (dispatch_predicate bqlLex .ERROR q q2 at_ lb rb body anchor [] hq hqd hq2 hat hlb hrb hbody hok ha hc)

/-- `"value"^^type:T`: the value holds no `"` and does not end with a backslash — exactly the boundary of known
    finding D36 — and `T` is a literal type name in any letter case.  (The hypothesis `htb` is not used.) -/
theorem printed_literal_is_one_token (q q2 : Rune) (v dl ty : List Rune)
    (hq : Delim q 34) (hqd : q.digit = false) (hq2 : Delim q2 34)
    (hv : ∀ x ∈ v, RuneOK x ∧ x.cp ≠ 34) (hl : NoTrailingBackslash v)
    (hdl : (q2 :: dl).map (·.lower) = [34, 94, 94, 116, 121, 112, 101, 58]) (hdb : runesBytes (q2 :: dl) = litTypePat)
    (hty : ∀ x ∈ ty, (x.letter || x.digit) = true) (htb : (34 : UInt8) ∉ runesBytes ty)
    (hknown : bqlLex.litTypes.contains (lowerCps ty) = true) :
    lex bqlLex (q :: (v ++ q2 :: (dl ++ ty))) = [(.LITERAL, q :: (v ++ q2 :: (dl ++ ty))), (.EOF, [])] :=
  lex_single bqlLex q _ _ (by
    have h := dispatch_literal bqlLex .ERROR q q2 v dl ty [] hq hqd hq2 hv hl hdl hdb hty hknown nofun
    rwa [List.append_nil] at h)

/-- ASCII runes as Go classifies them (for the non-vacuity examples). -/
def ar (c : Nat) : Rune :=
  { cp := c, bytes := [c.toUInt8], letter := decide ((65 ≤ c ∧ c ≤ 90) ∨ (97 ≤ c ∧ c ≤ 122)), digit := decide (48 ≤ c ∧ c ≤ 57),
    space := c == 32, lower := asciiLower c, fold := if 97 ≤ c ∧ c ≤ 122 then c - 32 else c }

open BW.Proofs.LexPrinted in
/-- Non-vacuity: `"a\\"@[]` (an ID ending with a backslash) and `"a"^^type:text` meet the hypotheses. -/
example : lex bqlLex (ar 34 :: ([ar 97, ar 92, ar 92] ++ ar 34 :: ar 64 :: ar 91 :: ([] ++ [ar 93]))) =
    [(.PREDICATE, ar 34 :: ([ar 97, ar 92, ar 92] ++ ar 34 :: ar 64 :: ar 91 :: ([] ++ [ar 93]))), (.EOF, [])] :=
  printed_predicate_is_one_token (ar 34) (ar 34) (ar 64) (ar 91) (ar 93) [ar 97, ar 92, ar 92] []
    ⟨rfl, rfl, rfl⟩ rfl ⟨rfl, rfl, rfl⟩ ⟨rfl, rfl, rfl⟩ ⟨rfl, rfl, rfl⟩ rfl
    (.plain _ _ (by decide) (.pair _ _ _ rfl rfl .nil)) (by unfold RuneOK; decide) (by intro x hx; cases hx) (by decide)

open BW.Proofs.LexPrinted in
example : lex bqlLex (ar 34 :: ([ar 97] ++ ar 34 :: ([ar 94, ar 94, ar 116, ar 121, ar 112, ar 101, ar 58] ++ [ar 116, ar 101, ar 120, ar 116]))) =
    [(.LITERAL, ar 34 :: ([ar 97] ++ ar 34 :: ([ar 94, ar 94, ar 116, ar 121, ar 112, ar 101, ar 58] ++ [ar 116, ar 101, ar 120, ar 116]))), (.EOF, [])] :=
  printed_literal_is_one_token (ar 34) (ar 34) [ar 97] [ar 94, ar 94, ar 116, ar 121, ar 112, ar 101, ar 58] [ar 116, ar 101, ar 120, ar 116]
    ⟨rfl, rfl, rfl⟩ rfl ⟨rfl, rfl, rfl⟩
    (by unfold RuneOK; decide) (by unfold NoTrailingBackslash; decide) (by decide) (by decide) (by decide) (by decide) (by decide)

end BW.Props.C16

#print axioms BW.Props.C16.tables_wf
#print axioms BW.Props.C16.keywords_lower_ascii
#print axioms BW.Props.C16.keywords_distinct
#print axioms BW.Props.C16.lex_one_terminal
#print axioms BW.Props.C16.lex_substrings
#print axioms BW.Props.C16.lex_from_boundary
#print axioms BW.Props.C16.equalFold_fold_only
#print axioms BW.Props.C16.kw_case_insensitive
#print axioms BW.Props.C16.ws_invariant
#print axioms BW.Props.C16.printed_binding_is_one_token
#print axioms BW.Props.C16.printed_node_is_one_token
#print axioms BW.Props.C16.blank_node_is_one_token
#print axioms BW.Props.C16.printed_predicate_is_one_token
#print axioms BW.Props.C16.printed_literal_is_one_token
