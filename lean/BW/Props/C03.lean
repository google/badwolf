/-
C03 — SELECT returns exactly the solutions of its graph pattern.

Reference semantics: `solutions` / `solutionsO` of `BW/Spec/Query.lean` (join, clause by clause, of the matches of
each clause on a scan of the queried graphs; `solutionsO` reads the interval of an object predicate bounded by
bindings from the row and is `solutions` on patterns without one).  Planner model: `BW/Model/Query.lean` (the
strategies of processClause over the store model).

PROVED here: what the property text states of the reference semantics (a match respects constants and time bounds; a
mandatory step joins compatible matches, all of them and nothing else; monotonicity); the planner's data access is the
reference's clause match; every strategy of `processClause` is one join step of the reference; so the table
`processGraphPattern` leaves is the set of solutions, for every pattern, and after the plain projection shows their
projection; the reference lists an assignment once where the row shows the matched triples; the hooks build the
clauses, projections, graphs and global bounds the tokens denote.
The equalities are between SETS of rows up to the zone in which an anchor is written — multiplicities are
not claimed (the property leaves them open when a triple is stored in two listed graphs; clauses that bind
nothing and interval predicates make them differ too) — and hold whenever the planner model succeeds, under
hypotheses about the statement and the data that are spelled out at `select_pattern_eq_solutions`.
Grouping, ordering, LIMIT and HAVING are C11–C13's; the tie of this model to
the code is the three-way `query` correspondence (implementation / planner model / reference).
-/
import BW.Proofs.Query
import BW.Proofs.Planner.Pattern
import BW.Proofs.Projection
import BW.Proofs.Hooks
import BW.Proofs.HooksHead
import BW.Proofs.OnePerAssignment

namespace BW.Props.C03
open BW.Model BW.Spec BW.Proofs.Query BW.Proofs.Planner BW.Proofs.Store BW.Proofs.ClauseOrder

/-- A clause matches a triple only if its constants equal the triple's parts (predicates: identifier,
    kind, instant) and the predicate lies inside the clause-level and global time bounds. -/
theorem match_respects_constants_and_bounds (c : Clause) (w : Window) (t : Triple) (r : Row)
    (h : matchClause c w t = some r) : constsMatch c t = true ∧ w.holds t.p = true :=
  ⟨(matchClause_some h).consts, (matchClause_some h).window⟩

/-- An immutable predicate constant matches only immutable triples, a temporal one only triples
    anchored at that instant. -/
theorem pred_constant_kind (p q : Pred) (h : predSame p q = true) :
    p.id = q.id ∧ p.anchor.map (·.nanos) = q.anchor.map (·.nanos) :=
  predSame_parts h

/-- The window is the closed interval; immutable predicates are always inside. -/
theorem window_closed (w : Window) (p : Pred) :
    w.holds p = true ↔ (p.anchor = none ∨ ∃ t, p.anchor = some t ∧ (∀ l, w.lower = some l → l ≤ t.nanos) ∧ (∀ u, w.upper = some u → t.nanos ≤ u)) :=
  holds_iff w p

/-- Every row of a mandatory join step is an input row extended by a match of the clause on some
    stored triple that agrees with it on the shared bindings: no row is not a solution. -/
theorem no_row_is_not_a_solution (scan : List Triple) (glo ghi : Option Int) (rows : List Row) (c : Clause)
    (hc : c.optional = false) (r' : Row) (h : r' ∈ joinClause scan glo ghi rows c) :
    ∃ r ∈ rows, ∃ t ∈ scan, ∃ m, matchClause c (clauseWindow glo ghi c r) t = some m ∧ compatible r m = true ∧ r' = r.merge m := by
  rw [joinClause_by, hc, joinBy_mandatory, List.mem_flatMap] at h
  obtain ⟨r, hr, hmem⟩ := h
  obtain ⟨m, hm, rfl⟩ := List.mem_map.mp hmem
  obtain ⟨hm1, hm2⟩ := List.mem_filter.mp hm
  obtain ⟨t, ht, htm⟩ := List.mem_filterMap.mp hm1
  exact ⟨r, hr, t, ht, m, htm, hm2, rfl⟩

/-- … and no solution is missing: every compatible match of every input row is present. -/
theorem no_solution_is_missing (scan : List Triple) (glo ghi : Option Int) (rows : List Row) (c : Clause)
    (hc : c.optional = false) (r : Row) (hr : r ∈ rows) (t : Triple) (ht : t ∈ scan) (m : Row)
    (hm : matchClause c (clauseWindow glo ghi c r) t = some m) (hcomp : compatible r m = true) :
    r.merge m ∈ joinClause scan glo ghi rows c := by
  rw [joinClause_by, hc, joinBy_mandatory, List.mem_flatMap]
  exact ⟨r, hr, List.mem_map.mpr ⟨m, List.mem_filter.mpr ⟨List.mem_filterMap.mpr ⟨t, ht, hm⟩, hcomp⟩, rfl⟩⟩

/-- A binding has one value per row: a join never changes a value that is already bound. -/
theorem binding_keeps_its_value (a b : Row) (k : Bytes) (h : a.has k = true) : (a.merge b).get k = a.get k := by
  obtain ⟨v, hv⟩ := get_of_has h
  rw [get_merge, hv]
  rfl

/-- Planner model: the per-row join only merges fetched rows that hold the same value for every
    shared binding (the D21 repair), and every produced row extends the row it came from. -/
theorem planner_joins_only_compatible (r : Row) (bs : List Bytes) (fetched : List Row) (r' : Row)
    (h : r' ∈ joinRow r false bs fetched) : ∃ nr ∈ fetched, compatibleRows r nr = true ∧ r' = r.merge nr := by
  unfold joinRow at h
  simp only [Bool.and_false, Bool.false_eq_true, if_false] at h
  obtain ⟨nr, hnr, rfl⟩ := List.mem_map.mp h
  exact ⟨nr, (List.mem_filter.mp hnr).1, (List.mem_filter.mp hnr).2, rfl⟩

theorem planner_join_extends (r : Row) (opt : Bool) (bs : List Bytes) (fetched : List Row) :
    ∀ r' ∈ joinRow r opt bs fetched, Extends r' r :=
  joinRow_extends r opt bs fetched

/-- Adding triples never removes solutions of a pattern without OPTIONAL. -/
theorem monotone (scan scan' : List Triple) (glo ghi : Option Int) (cs : List Clause)
    (hc : ∀ c ∈ cs, c.optional = false) (hs : ∀ t ∈ scan, t ∈ scan') :
    ∀ r ∈ solutions scan glo ghi cs, r ∈ solutions scan' glo ghi cs :=
  foldl_mono (stepsBy_joinClause glo ghi) cs hc hs _

/-! Non-vacuity: a concrete clause matches a concrete triple. -/
def exT : Triple := ⟨⟨[47, 117], [97]⟩, .imm [112], .node ⟨[47, 117], [98]⟩⟩
def exC : Clause := { sBinding := [63, 115], p := some (.imm [112]), oBinding := [63, 111] }
example : (matchClause exC {} exT).isSome = true := by decide +kernel

/-- For every clause — any position fixed or open; bindings, aliases, TYPE / ID / AT extractions, `"id"@[?t]` and
    `"id"@[lo,hi]` — and every global window, the planner's data access (`simpleFetch`: the driver look-up chosen by
    the fixed positions, over every FROM graph, then `tripleToRow` under `shouldIgnoreTriple`) succeeds and returns,
    as a set and up to the zone of an anchor, exactly the rows the reference binds on a scan of those graphs, the
    empty ones left out (`specRows`: `Table.AddRow` drops a row that binds nothing).
    Hypotheses: index invariant (every reachable graph, C01) and views that are those of their triples; no FILTER;
    constants and stored values told apart by their UUID pre-images (not so for D02/D04); the ID alias of the
    object not named after the object itself (an idiom the suite pins). -/
theorem fetch_is_reference_match {F : Facts} (hF : Facts.WF F = true) (gs : List QGraph) (hg : GraphsOK F gs)
    (c : Clause) (hid : IdAliasPlain c) (lo : QOpts) (hfil : lo.filter = none)
    (hap : Apart gs c) (hapA : AnchorsApart gs c) :
    ∃ rows, simpleFetch F gs c lo 0 = .ok rows ∧
      SetEq rows (specRows c (fetchWindow lo c) (gs.flatMap scanOf)) :=
  let ⟨rows, h, hs⟩ := simpleFetch_spec hF gs hg c hid lo hfil hap hapA
  ⟨rows, h, hs.setEq⟩

/-- One triple, one clause: the Go function `tripleToRow` is the left fold of the reference's binding
    steps (same success, same row). -/
theorem triple_to_row_is_reference (t : Triple) (c : Clause) (hid : IdAliasPlain c) :
    tripleToRow t c = (match specBind c t with | some r => T2R.row r | none => T2R.skip) :=
  (tripleToRow_verdict t c hid).trans (by unfold verdict; cases specBind c t <;> rfl)

/-- `specifyClauseWithTable` — for every row of the table: fix the clause's open positions from the row's values
    (`specialise`), tighten the window by the row's bound aliases, fetch (or probe, when the specialised clause
    extracts nothing), keep the fetched rows that agree with the row, merge — yields, whenever it succeeds, exactly
    the rows of the reference's join of the table with the clause, as a set and up to the zone of an anchor.  For
    every clause (OPTIONAL or not, any extraction, bounds and bound aliases, `"id"@[?lo,?hi]` in object position
    included: `joinClauseO` reads that interval from the row), every table whose rows repeat no key and hold values
    of the universe, every window. -/
theorem per_row_strategy_is_join {F : Facts} (hF : Facts.WF F = true) {gs : List QGraph} (hg : GraphsOK F gs)
    (U : Universe gs) {c : Clause} {lo : QOpts} (hwf : ClauseWF c) (hcin : ClauseIn U c) (hfil : lo.filter = none)
    (rows out : List Row) (hrows : ∀ r ∈ rows, RowOK U r) (h : specifyAll F gs c lo 0 rows = .ok out) :
    SetEq out (joinClauseO (gs.flatMap scanOf) (nl lo.lower) (nl lo.upper) rows c) ∧ ∀ r' ∈ out, RowOK U r' :=
  have hs := specifyAll_spec (fetchOK hF hg U) hwf hcin hfil rows out hrows h
  ⟨hs.setEq, hs.rowOK U fun y hy => (joinClauseO_rows U _ _ c hrows y hy).1⟩

/-- The constants `specialise` adds are implied: a match of the clause that agrees with the row on the
    shared bindings matches the specialised clause too, and nothing else does. -/
theorem specialisation_is_transparent {r : Row} {c c' : Clause} {lo lo' : QOpts} (h : specialise r c lo = .ok (c', lo'))
    (w : Window) (ht : Tight c w) (t : Triple) (m : Row) :
    (matchClause c' w t = some m ∧ compatible r m = true) ↔ (matchClause c w t = some m ∧ compatible r m = true) :=
  match_specialised (specialise_specialised h) w t m

/-- **C03, for every pattern.** `processGraphPattern` — clause after clause, whichever of its strategies
    `processClause` picks: existence test of a clause of constants, probe of a clause that binds nothing,
    cross join / left outer join with a clause sharing no binding, per-row specialisation otherwise — leaves,
    whenever it succeeds, a table whose rows are exactly the solutions of the reference semantics
    (`solutionsO`): no solution is missing and no row is not a solution, as sets of rows and up to the zone in
    which an anchor is written.
    Hypotheses, all about the statement and the data, none about the execution: the graphs satisfy the
    store's index invariant — for index facts `F` that are well formed, as the regenerated ones are (C01
    `facts_wf`) — and their views are those of their triples (`GraphsOK`); the values in play
    have distinct UUID pre-images (`Universe`, a set of cells the caller names: the stored values, the clauses'
    constants, and what `specialise` builds from them — what the known findings D02/D04 violate); every clause
    is what the parser builds (`PatClause`: its constants in the universe, a position is a constant or open, bound aliases only on
    `"id"@[?lo,?hi]` and in place of a constant bound, the ID alias not named after its object, no clause made only
    of constants and bound aliases); the first clause is mandatory and extracts something (otherwise the solutions may be the empty
    assignment, which a table cannot hold: known finding D35); no FILTER; the statement limit is not
    pushed down (`stmLimit = 0`; the push-down condition is C12's).
    Errors are C08's and C20's subject. -/
theorem select_pattern_eq_solutions {F : Facts} (hF : Facts.WF F = true) {gs : List QGraph} (hg : GraphsOK F gs)
    (U : Universe gs) (lo : QOpts) (c0 : Clause) (cs : List Clause) (h0 : PatClause U c0)
    (hrest : ∀ c ∈ cs, PatClause U c) (hopt : c0.optional = false) (hex : c0.extractsNothing = false) (out : Tbl)
    (h : processPattern F gs (c0 :: cs) lo 0 (fun _ => none) = .ok out) :
    SetEq out.rows (solutionsO (gs.flatMap scanOf) (nl lo.lower) (nl lo.upper) (c0 :: cs)) :=
  processPattern_spec hF hg U (List.forall_mem_cons.mpr ⟨h0, hrest⟩) hopt hex h

/-- … which, for patterns without object intervals bounded by bindings, is the plain `solutions`. -/
theorem select_pattern_eq_solutions_plain {F : Facts} (hF : Facts.WF F = true) {gs : List QGraph} (hg : GraphsOK F gs)
    (U : Universe gs) (lo : QOpts) (c0 : Clause) (cs : List Clause) (h0 : PatClause U c0)
    (hrest : ∀ c ∈ cs, PatClause U c) (hno : ∀ c ∈ c0 :: cs, c.oLowerAlias = [] ∧ c.oUpperAlias = [])
    (hopt : c0.optional = false) (hex : c0.extractsNothing = false) (out : Tbl)
    (h : processPattern F gs (c0 :: cs) lo 0 (fun _ => none) = .ok out) :
    SetEq out.rows (solutions (gs.flatMap scanOf) (nl lo.lower) (nl lo.upper) (c0 :: cs)) :=
  processPattern_spec_plain hF hg U (List.forall_mem_cons.mpr ⟨h0, hrest⟩) hno hopt hex h

/-! Non-vacuity: the hypotheses of `fetch_is_reference_match` and `select_pattern_eq_solutions` hold for a one-triple
    graph and a clause with a constant predicate. -/
def exV : TView := { id := 0, ks := preNode exT.s, pid := exT.p.id, pnano := none, ko := preNode ⟨[47, 117], [98]⟩ }
def exQ : QGraph := { g := Graph.empty.add1 Facts.reference exV, uni := fun _ => some exT }
example : IdAliasPlain exC := Or.inl rfl
example : GraphsOK Facts.reference [exQ] := by
  intro q hq
  simp only [List.mem_singleton] at hq
  subst hq
  refine ⟨inv_add1 reference_wf (inv_empty _) exV, ?_⟩
  intro v hv
  simp [exQ, Graph.add1, Graph.empty, Facts.reference] at hv
  subst hv
  exact ⟨exT, rfl, rfl, rfl, rfl, rfl⟩
example : Apart [exQ] exC := ⟨fun s hs => by simp [exC] at hs, fun o ho => by simp [exC] at ho⟩
example : AnchorsApart [exQ] exC := by
  intro p hp q hq t ht _
  simp only [List.mem_singleton] at hq
  subst hq
  simp [exC] at hp
  subst hp
  simp [scanOf, QGraph.triples, exQ, Graph.add1, Graph.empty, Facts.reference] at ht
  subst ht
  rfl

/-- A universe for the one-triple graph: its two nodes and its predicate. -/
def exU : Universe [exQ] where
  cell v := v = .node exT.s ∨ v = .node ⟨[47, 117], [98]⟩ ∨ v = .pred (.imm [112])
  ids _ := False
  norm := by
    intro v v' h hv
    rcases hv with e | e | e <;> subst e
    · cases v' <;> simp [normCell] at h
      exact Or.inl (by rw [h])
    · cases v' <;> simp [normCell] at h
      exact Or.inr (Or.inl (by rw [h]))
    · cases v' <;> simp [normCell, normPredC] at h
      rename_i p
      cases p <;> simp [normPredC] at h
      exact Or.inr (Or.inr (by rw [h]))
  stored := by
    intro q hq t ht
    simp only [List.mem_singleton] at hq; subst hq
    simp [scanOf, QGraph.triples, exQ, Graph.add1, Graph.empty, Facts.reference] at ht
    subst ht
    exact ⟨Or.inl rfl, Or.inr (Or.inr rfl), Or.inr (Or.inl rfl)⟩
  anchor := by intro i ta h; rcases h with e | e | e <;> cases e
  built := by intro i ta h; exact h.elim
  injNode := by
    intro n n' h h' he
    rcases h with e | e | e <;> rcases h' with e' | e' | e' <;> cases e <;> cases e' <;> first | rfl | (exfalso; revert he; decide)
  injObj := by
    intro o o' h h' he
    have key : ∀ x : Obj, (objCell x = .node exT.s ∨ objCell x = .node ⟨[47, 117], [98]⟩ ∨ objCell x = .pred (.imm [112])) →
        x = .node exT.s ∨ x = .node ⟨[47, 117], [98]⟩ ∨ x = .pred (.imm [112]) := by
      intro x hx
      cases x <;> simp [objCell] at hx ⊢ <;> exact hx
    rcases key o h with e | e | e <;> rcases key o' h' with e' | e' | e' <;> subst e <;> subst e' <;>
      first | rfl | (exfalso; revert he; decide)
  injTime := by intro a b h; rcases h with e | e | e <;> cases e

example : PatClause exU exC :=
  ⟨⟨Or.inl rfl, fun _ => ⟨rfl, rfl⟩⟩, ⟨fun h => by simp [exC] at h, fun _ => ⟨rfl, rfl, rfl⟩, fun h => by simp [exC] at h⟩,
   ⟨fun s hs => by simp [exC] at hs, fun p hp => by simp [exC] at hp; subst hp; exact Or.inr (Or.inr rfl),
    fun o ho => by simp [exC] at ho, fun h => absurd rfl h, fun h => absurd rfl h⟩, fun h => by simp [exC, Clause.extractsNothing] at h, ⟨fun h => absurd rfl h, fun h => absurd rfl h⟩⟩
example : exC.optional = false ∧ exC.extractsNothing = false := by decide

/-- **C03 end to end for SELECT without GROUP BY**: what the statement shows — the planner's table after the plain
    projection (`projectPlain` maps `projectRow` over the rows) — is, output column by output column, the reference's
    simultaneous projection of the solutions: every shown row is the projection of a solution, every solution's
    projection is shown (as sets of rows, anchors up to zone). Hypotheses: those of `select_pattern_eq_solutions`, the
    output names distinct, and every row holds the projected bindings (the semantic checks of the SELECT list). -/
theorem select_shows_the_projected_solutions {F : Facts} (hF : Facts.WF F = true) {gs : List QGraph} (hg : GraphsOK F gs)
    (U : Universe gs) (lo : QOpts) (c0 : Clause) (cs : List Clause) (h0 : PatClause U c0)
    (hrest : ∀ c ∈ cs, PatClause U c) (hopt : c0.optional = false) (hex : c0.extractsNothing = false) (out : Tbl)
    (h : processPattern F gs (c0 :: cs) lo 0 (fun _ => none) = .ok out)
    (ps : List Proj) (hb : ∀ p ∈ ps, p.binding ≠ []) (hn : (ps.map Proj.out).Nodup)
    (hr : ∀ r ∈ out.rows, ∀ p ∈ ps, r.has p.binding = true) :
    (∀ r ∈ out.rows, ∃ x ∈ solutionsO (gs.flatMap scanOf) (nl lo.lower) (nl lo.upper) (c0 :: cs),
      ∀ p ∈ ps, ((projectRow ps r).get p.out).map normCell = ((BW.Spec.project ps x).get p.out).map normCell) ∧
    (∀ x ∈ solutionsO (gs.flatMap scanOf) (nl lo.lower) (nl lo.upper) (c0 :: cs), ∃ r ∈ out.rows,
      ∀ p ∈ ps, ((projectRow ps r).get p.out).map normCell = ((BW.Spec.project ps x).get p.out).map normCell) :=
  have hs := select_pattern_eq_solutions hF hg U lo c0 cs h0 hrest hopt hex out h
  have key : ∀ {r x : Row}, r ∈ out.rows → BW.Proofs.ClauseOrder.RowEq r x → ∀ p ∈ ps,
      ((projectRow ps r).get p.out).map normCell = ((BW.Spec.project ps x).get p.out).map normCell := fun hrm e p hp => by
    rw [BW.Proofs.Projection.projection_spec ps _ hb hn (hr _ hrm) p hp]
    exact BW.Proofs.Projection.project_get_norm ps hb hn e p hp
  ⟨fun r hrm => let ⟨x, hx, e⟩ := hs.1 r hrm; ⟨x, hx, key hrm e⟩,
   fun x hx => let ⟨r, hrm, e⟩ := hs.2 x hx; ⟨r, hrm, key hrm e⟩⟩

/-- One clause, whatever the strategy. -/
theorem one_clause_is_one_join {F : Facts} (hF : Facts.WF F = true) {gs : List QGraph} (hg : GraphsOK F gs)
    (U : Universe gs) {tbl tbl' : Tbl} {unres : Bool} (ht : TblOK U tbl) {c : Clause} {lo : QOpts} (hc : PatClause U c)
    (hfil : lo.filter = none) (hfirst : tbl.bindings = [] → c.optional = false ∧ c.extractsNothing = false)
    (h : processClause F gs tbl c lo 0 = .ok (tbl', unres)) :
    TblOK U tbl' ∧ (tbl'.bindings ≠ []) ∧
    (unres = false → SetEq (absRows tbl') (joinClauseO (gs.flatMap scanOf) (nl lo.lower) (nl lo.upper) (absRows tbl) c)) ∧
    (unres = true → joinClauseO (gs.flatMap scanOf) (nl lo.lower) (nl lo.upper) (absRows tbl) c = []) :=
  processClause_spec (fetchOK hF hg U) ht hc hfil hfirst h

/-- Object predicates bounded by bindings (`?s ?p "id"@[?lo,?hi]`) are inside the planner theorems above; on patterns
    without them `solutionsO` is `solutions`. The pinned tree never read those bounds and returned rows that are not
    solutions (1eb6e97; the hooks model showed that the parser does build such clauses). -/
theorem reference_extends_to_object_bounds (scan : List Triple) (glo ghi : Option Int) (cs : List Clause)
    (h : ∀ c ∈ cs, c.oLowerAlias = [] ∧ c.oUpperAlias = []) : solutionsO scan glo ghi cs = solutions scan glo ghi cs :=
  solutionsO_eq scan glo ghi cs h

/-- On a row for which it succeeds, the per-row step treats a clause whose object interval is bounded by bindings
    exactly as the clause that row sees — the interval read from the row, the bound aliases gone — and the row has
    those aliases. -/
theorem per_row_clause_is_the_clause_the_row_sees (F : Facts) (gs : List QGraph) (r : Row) (c : Clause) (q : QOpts) (out : List Row)
    (h : addSpecifiedData F gs r c q 0 = .ok out) :
    addSpecifiedData F gs r (rowClause c r) q 0 = .ok out ∧
    (c.oLowerAlias ≠ [] → r.has c.oLowerAlias = true) ∧ (c.oUpperAlias ≠ [] → r.has c.oUpperAlias = true) :=
  addSpecifiedData_rowClause F gs r c q out h

/-- Non-vacuity: a clause `?s ?p "q"@[?lo,?hi]` and a row holding `?lo`, `?hi`: the row's clause has the interval. -/
example : (rowClause { oID := [113], oTemporal := true, oLowerAlias := [63, 108], oUpperAlias := [63, 104], sBinding := [63, 115] }
    [([63, 108], .time ⟨5, 0⟩), ([63, 104], .time ⟨9, 0⟩)]).oLower = some ⟨5, 0⟩ := by decide +kernel

/-- The property counts solutions by assignment, the reference by combination of matching triples: the same count
    wherever the row shows which triple each clause matched.  Over a scan in which no triple occurs twice (graphs
    hold sets, and no triple is stored in two listed graphs) the solutions of a pattern of mandatory clauses each of
    whose positions is a constant, a binding / alias, or `"id"@[?t]` are pairwise different rows.  With
    `select_pattern_eq_solutions_plain`: every assignment is returned, nothing else is, and the reference lists each
    once.  (`"id"@[lo,hi]` without `AT` and OPTIONAL clauses are outside: the property leaves their multiplicities
    open.) -/
theorem one_row_per_assignment (scan : List Triple) (hs : BW.Proofs.OnePerAssignment.ScanDistinct scan) (glo ghi : Option Int)
    (cs : List Clause) (hd : ∀ c ∈ cs, BW.Proofs.OnePerAssignment.Determined c ∧ c.optional = false) :
    (solutions scan glo ghi cs).Pairwise fun a b => ¬ BW.Proofs.ClauseOrder.RowEq a b :=
  (List.foldlRecOn cs (joinClause scan glo ghi)
    (motive := fun rows => BW.Proofs.OnePerAssignment.Distinct rows ∧ BW.Proofs.OnePerAssignment.SameKeys rows)
    ⟨List.pairwise_singleton _ _, fun r hr r' hr' _ => by rw [List.mem_singleton.mp hr, List.mem_singleton.mp hr']⟩
    fun rows h c hm =>
      BW.Proofs.OnePerAssignment.joinClause_distinct scan hs glo ghi c (hd c hm).1 (hd c hm).2 rows h.1 h.2).1

/-- … because such a clause's row determines the triple it matched. -/
theorem row_determines_the_triple {c : Clause} (hd : BW.Proofs.OnePerAssignment.Determined c) (hopt : c.optional = false)
    {w w' : Window} {t t' : Triple} {m m' : Row} (h : matchClause c w t = some m) (h' : matchClause c w' t' = some m')
    (he : BW.Proofs.ClauseOrder.RowEq m m') : BW.Proofs.Planner.TripleEq t t' :=
  BW.Proofs.OnePerAssignment.row_determines_triple hd hopt h h' he

/-- Non-vacuity: `?s "p"@[?t] ?o` is determined; `?s "p"@[,] ?o` is not. -/
example : BW.Proofs.OnePerAssignment.Determined { sBinding := [63, 115], pID := [112], pAnchorBinding := [63, 116], pTemporal := true, oBinding := [63, 111] } ∧
    ¬ BW.Proofs.OnePerAssignment.Determined { sBinding := [63, 115], pID := [112], pTemporal := true, oBinding := [63, 111] } := by
  unfold BW.Proofs.OnePerAssignment.Determined
  decide

/-- The plain projection of the planner (`projectPlain`: for each row, read the cell of every projected
    binding, then write the aliases) shows in every output column the cell the reference's simultaneous
    projection shows — for every statement whose output names are distinct, whatever the aliases are called
    (`?a as ?b, ?b as ?c` included: before 1cfe61b the aliases were copied one after the other and the second
    column showed `?a`), and rows that hold every projected binding. -/
theorem projection_is_simultaneous (ps : List Proj) (rows : List Row) (hb : ∀ p ∈ ps, p.binding ≠ [])
    (hn : (ps.map Proj.out).Nodup) (hr : ∀ r ∈ rows, ∀ p ∈ ps, r.has p.binding = true) :
    ∀ r ∈ rows, ∀ p ∈ ps, (projectRow ps r).get p.out = (project ps r).get p.out :=
  fun r hr' p hp => BW.Proofs.Projection.projection_spec ps r hb hn (hr r hr') p hp

/-- Non-vacuity, with an alias named after another projected binding: `?s as ?o, ?o as ?x` on a row `?s ↦ a, ?o ↦ b`
    shows `a` under `?o` and `b` under `?x`. -/
example : let r : Row := [([63, 115], .str [97]), ([63, 111], .str [98])]
    let ps : List Proj := [{ binding := [63, 115], alias := [63, 111] }, { binding := [63, 111], alias := [63, 120] }]
    ((projectRow ps r).get [63, 111], (projectRow ps r).get [63, 120]) = (some (.str [97]), some (.str [98])) := by decide +kernel

/-- The WHERE-clause hooks of the semantic layer build, from the tokens of a clause, exactly the clause the
    text denotes: the subject hook over the subject's tokens (after `OPTIONAL {` for an optional clause), the
    predicate hook over the predicate's, the object hook over the object's — constants (node, full predicate,
    literal), bindings, `"id"@[?t]`, `"id"@[lo,hi]` with times or bound aliases, and the `AS` / `TYPE` / `ID` /
    `AT` aliases in any order — each in the field of its position, nothing else touched. Which symbol's
    tokens reach which hook is regenerated from the running grammar (`C18.routing_wf`); the whole path
    text → tokens → parser events → hooks → clauses is run against the real hooks on every generated
    statement (`hooks` correspondence). -/
theorem where_clause_means_its_tokens (a : BW.Proofs.Hooks.ClauseAST) (hv : a.Valid) :
    (match BW.Proofs.Hooks.runPart BW.Model.Hooks.subjStep {} none
        (BW.Proofs.Hooks.optToks a ++ BW.Proofs.Hooks.sTok a.sb :: BW.Proofs.Hooks.modToks a.smods) with
     | none => none
     | some (c1, _) =>
       match BW.Proofs.Hooks.runPart BW.Model.Hooks.predStep c1 none (BW.Proofs.Hooks.pTok a.pb :: BW.Proofs.Hooks.modToks a.pmods) with
       | none => none
       | some (c2, _) =>
         (BW.Proofs.Hooks.runPart BW.Model.Hooks.objStep c2 none (BW.Proofs.Hooks.oTok a.ob :: BW.Proofs.Hooks.modToks a.omods)).map (·.1))
      = some (BW.Proofs.Hooks.denote a) :=
  by
  open BW.Model.Hooks BW.Proofs.Hooks in
  have hP := fixed_after_part clearP_setS clearP_denoteS (c := { optional := a.optional }) rfl a.sb a.smods
  have hO := fixed_after_part clearO_setS clearO_denoteS (c := { optional := a.optional }) rfl a.sb a.smods
  rw [optToks_run, subj_denote rfl _ hv.s]
  simp only
  rw [pred_denote hP _ hv.p]
  simp only
  rw [obj_denote (fixed_after_part clearO_setP clearO_denoteP hO a.pb a.pmods) _ hv.o]
  rfl

/-- The SELECT list means what its tokens say: the projection hook (`varAccumulator`) over the tokens of a
    list of projections — `?b`, `?b as ?a`, `count(?b) as ?a`, `count(distinct ?b) as ?a`, `sum(?b) as ?a`,
    separated by commas — followed by the flush the end of WHERE forces, has collected exactly the
    projections written, in order, and changed nothing else of the statement. -/
theorem select_list_means_its_tokens (ps : List BW.Proofs.HooksHead.PAst) (hps : ∀ p ∈ ps, p.ok)
    (h : BW.Model.Hooks.Head) (hw : h.wproj = BW.Proofs.HooksHead.emptyProj) :
    ∃ h', BW.Proofs.HooksHead.varRun h none (BW.Proofs.HooksHead.listToks ps) = some (h', none) ∧
      h'.flush = { h with projs := h.projs ++ ps.map BW.Proofs.HooksHead.PAst.denote } :=
  by
  open BW.Model.Hooks BW.Proofs.HooksHead in
  fun_induction listToks ps generalizing h with
  | case1 => exact ⟨h, rfl, by rw [flush_clean h hw]; simp⟩
  | case2 p =>
    obtain ⟨h1, r1, f1⟩ := one_proj h hw p (hps p List.mem_cons_self)
    exact ⟨h1, by rw [← p.toks.append_nil, r1]; rfl, f1⟩
  | case3 p q rest ih =>
    obtain ⟨h1, r1, f1⟩ := one_proj h hw p (hps p List.mem_cons_self)
    obtain ⟨h2, r2, f2⟩ := ih (fun x hx => hps x (List.mem_cons_of_mem _ hx)) h1.flush (by rw [f1]; exact hw)
    refine ⟨h2, ?_, by rw [f2, f1]; simp⟩
    rw [r1]
    exact r2

/-- FROM means what it says: the input graphs are the bindings listed, in order. -/
theorem from_means_its_tokens (gs : List Bytes) (h : BW.Model.Hooks.Head) :
    BW.Proofs.HooksHead.optRun BW.Model.Hooks.graphStep h (BW.Proofs.HooksHead.commaToks gs) =
      some { h with graphs := h.graphs ++ gs } :=
  by
  open BW.Model.Hooks BW.Proofs.HooksHead in
  fun_induction commaToks gs generalizing h <;> simp_all [optRun, graphStep, tk]

/-- The global time bound means what it says: `BEFORE t` sets the upper bound and only it, `AFTER t` the lower bound
    and only it, `BETWEEN t, t'` both (the lexer hands `t, t'` over as one bound token, `pairTk`). The closure starts as
    `enter` leaves it for a new statement, `{ cur := cur }`; that this is so whatever an earlier statement left in it is
    `C18.hooks_keep_no_state`. -/
theorem global_bound_means_its_tokens (h : BW.Model.Hooks.Head) (cur : Nat) (t t' : Time) :
    (BW.Proofs.HooksHead.boundsRun h { cur := cur } [BW.Proofs.HooksHead.tk .before, BW.Proofs.HooksHead.timeTk t]).map (·.1)
      = some { h with upper := some t } ∧
    (BW.Proofs.HooksHead.boundsRun h { cur := cur } [BW.Proofs.HooksHead.tk .after, BW.Proofs.HooksHead.timeTk t]).map (·.1)
      = some { h with lower := some t } ∧
    (BW.Proofs.HooksHead.boundsRun h { cur := cur } [BW.Proofs.HooksHead.tk .between, BW.Proofs.HooksHead.pairTk t t']).map (·.1)
      = some { h with lower := some t, upper := some t' } :=
  ⟨rfl, rfl, rfl⟩

/-- Non-vacuity: `select ?x, count(distinct ?y) as ?n` yields those two projections. -/
example : ((BW.Proofs.HooksHead.varRun {} none (BW.Proofs.HooksHead.listToks [.plain [63, 120], .count [63, 121] [63, 110] true])).map
    (fun r => r.1.flush.projs.map (fun p => (p.binding, p.alias, p.distinct)))) = some [([63, 120], [], false), ([63, 121], [63, 110], true)] := by decide +kernel

end BW.Props.C03

#print axioms BW.Props.C03.match_respects_constants_and_bounds
#print axioms BW.Props.C03.pred_constant_kind
#print axioms BW.Props.C03.window_closed
#print axioms BW.Props.C03.no_row_is_not_a_solution
#print axioms BW.Props.C03.no_solution_is_missing
#print axioms BW.Props.C03.binding_keeps_its_value
#print axioms BW.Props.C03.planner_joins_only_compatible
#print axioms BW.Props.C03.planner_join_extends
#print axioms BW.Props.C03.monotone
#print axioms BW.Props.C03.fetch_is_reference_match
#print axioms BW.Props.C03.triple_to_row_is_reference
#print axioms BW.Props.C03.per_row_strategy_is_join
#print axioms BW.Props.C03.specialisation_is_transparent
#print axioms BW.Props.C03.select_pattern_eq_solutions
#print axioms BW.Props.C03.select_pattern_eq_solutions_plain
#print axioms BW.Props.C03.select_shows_the_projected_solutions
#print axioms BW.Props.C03.per_row_clause_is_the_clause_the_row_sees
#print axioms BW.Props.C03.one_clause_is_one_join
#print axioms BW.Props.C03.projection_is_simultaneous
#print axioms BW.Props.C03.where_clause_means_its_tokens
#print axioms BW.Props.C03.select_list_means_its_tokens
#print axioms BW.Props.C03.from_means_its_tokens
#print axioms BW.Props.C03.global_bound_means_its_tokens
#print axioms BW.Props.C03.reference_extends_to_object_bounds
#print axioms BW.Props.C03.one_row_per_assignment
#print axioms BW.Props.C03.row_determines_the_triple
