/-
Reference semantics of the conjunctive BQL fragment (DESIGN.md appendix A): the solutions of a graph
pattern are the natural join, clause by clause, of the rows each clause matches on a *scan* of the
queried graphs; OPTIONAL is a left outer join.  Nothing here mentions indexes, look-ups, strategies
or evaluation order beyond the left-to-right scope of OPTIONAL.
-/
import BW.Model.Query

namespace BW.Spec
open BW.Model

/-- Cells are the same value iff same kind and equal components; times (and predicate anchors) as
    instants, whatever the zone. -/
def predSame (a b : Pred) : Bool := a.id == b.id && a.anchor.map (·.nanos) == b.anchor.map (·.nanos)

def objSame : Obj → Obj → Bool
  | .node a, .node b => a == b
  | .pred a, .pred b => predSame a b
  | .lit a, .lit b => a == b
  | _, _ => false

def cellSame : Cell → Cell → Bool
  | .node a, .node b => a == b
  | .pred a, .pred b => predSame a b
  | .lit a, .lit b => a == b
  | .time a, .time b => a.nanos == b.nanos
  | .str a, .str b => a == b
  | .null, .null => true
  | _, _ => false

/-- The constants of a clause equal the triple's parts. -/
def constsMatch (c : Clause) (t : Triple) : Bool :=
  (match c.s with | some s => s == t.s | none => true) &&
  (match c.p with | some p => predSame p t.p | none => true) &&
  (match c.o with | some o => objSame o t.o | none => true)

/-- The window a clause puts on the predicate anchor: the global bounds intersected with the
    clause's own bounds and, for bound aliases, with the row's values. -/
structure Window where
  lower : Option Int := none
  upper : Option Int := none

def Window.tightenLower (w : Window) (l : Option Int) : Window :=
  match l, w.lower with
  | some l, some g => { w with lower := some (max l g) }
  | some l, none => { w with lower := some l }
  | none, _ => w

def Window.tightenUpper (w : Window) (u : Option Int) : Window :=
  match u, w.upper with
  | some u, some g => { w with upper := some (min u g) }
  | some u, none => { w with upper := some u }
  | none, _ => w

def Window.holds (w : Window) (p : Pred) : Bool :=
  match p with
  | .imm _ => true
  | .tmp _ t => (match w.lower with | some l => decide (l ≤ t.nanos) | none => true) &&
                (match w.upper with | some u => decide (t.nanos ≤ u) | none => true)

/-- Binding `k` (if named) must hold cell `c`; a name used twice needs the same value. -/
def bindSame (acc : Option Row) (k : Bytes) (c : Cell) : Option Row :=
  match acc with
  | none => none
  | some r =>
    if k = [] then some r else
    match r.get k with
    | none => some (r ++ [(k, c)])
    | some old => if cellSame old c then some (r.set k c) else none   -- same value; the later representation is shown

/-- What an extraction yields: `none` = it cannot apply to this triple (a mandatory clause then does
    not match; an OPTIONAL one shows NULL). -/
def extract (optional : Bool) (v : Option Cell) : Option Cell :=
  match v with
  | some c => some c
  | none => if optional then some .null else none

def anchorOf : Pred → Option Cell
  | .tmp _ t => some (.time t)
  | .imm _ => none

/-- One binding step of a clause: an unnamed position binds nothing; an extraction that cannot apply
    (`none`) fails the match. -/
def bindStep (acc : Option Row) (kv : Bytes × Option Cell) : Option Row :=
  if kv.1 = [] then acc else
  match kv.2 with
  | none => none
  | some cell => bindSame acc kv.1 cell

/-- What each position of a clause would bind on a triple, in the order the positions are read. -/
def clauseSteps (c : Clause) (t : Triple) : List (Bytes × Option Cell) :=
  [
    (c.sBinding, some (.node t.s)), (c.sAlias, some (.node t.s)), (c.sTypeAlias, some (.str t.s.ty)),
    (c.sIDAlias, some (.str t.s.id)), (c.pBinding, some (.pred t.p)), (c.pAlias, some (.pred t.p)),
    (c.pIDAlias, some (.str t.p.id)), (c.pAnchorBinding, extract c.optional (anchorOf t.p)),
    (c.pAnchorAlias, extract c.optional (anchorOf t.p)), (c.oBinding, some (objCell t.o)), (c.oAlias, some (objCell t.o)),
    (c.oTypeAlias, extract c.optional (match t.o with | .node n => some (.str n.ty) | _ => none)),
    (c.oIDAlias, extract c.optional (match t.o with | .node n => some (.str n.id) | .pred p => some (.str p.id) | _ => none)),
    (c.oAnchorBinding, extract c.optional (match t.o with | .pred p => anchorOf p | _ => none)),
    (c.oAnchorAlias, extract c.optional (match t.o with | .pred p => anchorOf p | _ => none))]

/-- The row a clause binds on a triple, or `none` when the clause does not match it. -/
def matchClause (c : Clause) (w : Window) (t : Triple) : Option Row :=
  if !constsMatch c t then none else
  -- partially specified predicate ("id"@[?t], "id"@[lo,hi]) and its own bounds
  if c.pID ≠ [] && (t.p.id ≠ c.pID) then none else
  -- "id"@[lo,hi] needs a temporal predicate; "id"@[?t] extracts the anchor (below), which in an OPTIONAL
  -- clause yields NULL on an immutable predicate instead of failing the match
  if c.pID ≠ [] && c.pTemporal && c.pAnchorBinding = [] && t.p.anchor.isNone then none else
  if !w.holds t.p then none else
  if c.oID ≠ [] && (match t.o with
      | .pred p => p.id ≠ c.oID || (c.oTemporal && c.oAnchorBinding = [] && p.anchor.isNone) ||
          (c.oAnchorBinding = [] && c.oTemporal && !(({ lower := c.oLower.map (·.nanos), upper := c.oUpper.map (·.nanos) } : Window).holds p))
      | _ => false) then none else
  (clauseSteps c t).foldl bindStep (some [])

def rowTime (r : Row) (k : Bytes) : Option Int :=
  match r.get k with
  | some (.time t) => some t.nanos
  | _ => none

/-- Window of a clause under a row (global bounds ∩ clause bounds ∩ bound aliases). -/
def clauseWindow (glo ghi : Option Int) (c : Clause) (r : Row) : Window :=
  let w : Window := { lower := glo, upper := ghi }
  let w := (w.tightenLower (c.pLower.map (·.nanos))).tightenUpper (c.pUpper.map (·.nanos))
  let w := if c.pLowerAlias ≠ [] then w.tightenLower (rowTime r c.pLowerAlias) else w
  if c.pUpperAlias ≠ [] then w.tightenUpper (rowTime r c.pUpperAlias) else w

/-- Two rows agree on every binding they share. -/
def compatible (a b : Row) : Bool := a.all fun (k, v) => match b.get k with | some v' => cellSame v v' | none => true

/-- One join step: every current row with every compatible match of the clause on the scan. A
    clause that binds nothing (fully specified) keeps a row iff some triple matches. -/
def joinClause (scan : List Triple) (glo ghi : Option Int) (rows : List Row) (c : Clause) : List Row :=
  rows.flatMap fun r =>
    let ms := (scan.filterMap (matchClause c (clauseWindow glo ghi c r))).filter (compatible r)
    if c.optional then
      if ms.isEmpty then [r.merge ((c.bindings.filter (fun k => !r.has k)).map fun k => (k, Cell.null))]
      else ms.map r.merge
    else ms.map r.merge

/-- The solutions of a pattern: one row per combination of matching triple occurrences. -/
def solutions (scan : List Triple) (glo ghi : Option Int) (cs : List Clause) : List Row :=
  cs.foldl (joinClause scan glo ghi) [[]]

/-! #### Object predicates bounded by bindings: `?s ?p "id"@[?lo,?hi]` -/

def rowTimeT (r : Row) (k : Bytes) : Option Time :=
  match r.get k with
  | some (.time t) => some t
  | _ => none

/-- The clause as a row sees it: the interval of its object predicate is given by the row's values of the
    bound aliases (as `clauseWindow` does for the predicate position). -/
def withRowObjBounds (c : Clause) (r : Row) : Clause :=
  if c.oLowerAlias = [] && c.oUpperAlias = [] then c
  else { c with oLower := if c.oLowerAlias ≠ [] then rowTimeT r c.oLowerAlias else c.oLower,
                oUpper := if c.oUpperAlias ≠ [] then rowTimeT r c.oUpperAlias else c.oUpper }

/-- `joinClause` with object intervals read from the row. -/
def joinClauseO (scan : List Triple) (glo ghi : Option Int) (rows : List Row) (c : Clause) : List Row :=
  rows.flatMap fun r =>
    let ms := (scan.filterMap (matchClause (withRowObjBounds c r) (clauseWindow glo ghi c r))).filter (compatible r)
    if c.optional then
      if ms.isEmpty then [r.merge ((c.bindings.filter (fun k => !r.has k)).map fun k => (k, Cell.null))]
      else ms.map r.merge
    else ms.map r.merge

def solutionsO (scan : List Triple) (glo ghi : Option Int) (cs : List Clause) : List Row :=
  cs.foldl (joinClauseO scan glo ghi) [[]]

theorem withRowObjBounds_plain {c : Clause} (h : c.oLowerAlias = [] ∧ c.oUpperAlias = []) (r : Row) :
    withRowObjBounds c r = c := by
  unfold withRowObjBounds
  rw [h.1, h.2]
  rfl

theorem joinClauseO_eq (scan : List Triple) (glo ghi : Option Int) (rows : List Row) (c : Clause)
    (h : c.oLowerAlias = [] ∧ c.oUpperAlias = []) : joinClauseO scan glo ghi rows c = joinClause scan glo ghi rows c := by
  unfold joinClauseO joinClause
  simp only [withRowObjBounds_plain h]

/-- Without object bound aliases (the domain of C03's planner theorems) this is `solutions`. -/
theorem solutionsO_eq (scan : List Triple) (glo ghi : Option Int) (cs : List Clause)
    (h : ∀ c ∈ cs, c.oLowerAlias = [] ∧ c.oUpperAlias = []) : solutionsO scan glo ghi cs = solutions scan glo ghi cs :=
  List.foldl_rel (r := Eq) rfl fun c hm a _ e => e ▸ joinClauseO_eq scan glo ghi a c (h c hm)

/-- Simultaneous projection onto the selected bindings. -/
def project (ps : List Proj) (r : Row) : Row :=
  ps.foldl (fun out p => if p.out = [] then out else out.set p.out ((r.get p.binding).getD .null)) []

end BW.Spec
