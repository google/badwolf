/-
Rows as partial functions from binding names to cells: what `get` sees of the operations that build rows, rows
without repeated keys, and rows up to the zone of an anchor — the denotation `den`, of which the relations on rows
(`RowEq`) and on tables (`RelL`, `PermEq`) are the kernel; `compatible` as agreement of two denotations; what a
successful fold of the reference's binding steps leaves in the row (`foldl_bindStep_get`, `matchClause_some`).
The namespace is `BW.Proofs.ClauseOrder`, shared with `ClauseOrder.lean`.
-/
import BW.Spec.Query
import BW.Proofs.Lists
import BW.Proofs.Assoc

namespace BW.Proofs.ClauseOrder
open BW.Model BW.Spec BW.Proofs.Lists

theorem get_cons (p : Bytes × Cell) (r : Row) (k : Bytes) :
    Row.get (p :: r) k = if p.1 = k then some p.2 else r.get k := Assoc.get_cons p r k

theorem has_eq_get (r : Row) (k : Bytes) : r.has k = (r.get k).isSome := Assoc.any_key r k

theorem has_of_get {r : Row} {k : Bytes} {o : Option Cell} (h : r.get k = o) : r.has k = o.isSome :=
  h ▸ has_eq_get r k

theorem get_of_has {r : Row} {k : Bytes} (h : r.has k = true) : ∃ v, r.get k = some v :=
  Option.isSome_iff_exists.mp ((has_eq_get r k).symm.trans h)

theorem get_none_of_not_has {r : Row} {k : Bytes} (h : r.has k = false) : r.get k = none := by
  rw [has_eq_get] at h
  exact Option.isSome_eq_false_iff.mp h |> Option.isNone_iff_eq_none.mp

theorem get_append (a b : Row) (k : Bytes) : (a ++ b).get k = (a.get k).or (b.get k) := Assoc.get_append a b k

theorem get_filterKey (q : Bytes → Bool) (r : Row) (k : Bytes) :
    Row.get (r.filter fun p => q p.1) k = if q k then r.get k else none := Assoc.get_filterKey q r k

theorem get_set (r : Row) (k : Bytes) (v : Cell) (k' : Bytes) :
    (r.set k v).get k' = if k' = k then some v else r.get k' := by
  unfold Row.set
  split
  · rename_i h
    have e : (r.map fun p => if p.1 == k then (k, v) else p) =
        r.map fun p => if p.1 == k then (p.1, (fun _ => v) p.2) else p :=
      List.map_congr_left fun p _ => by
        split
        · rename_i hp; rw [eq_of_beq hp]
        · rfl
    rw [e]
    refine (Assoc.get_update r k k' fun _ => v).trans ?_
    split
    · rename_i hk
      obtain ⟨x, hx⟩ := get_of_has h
      rw [hk]; exact congrArg _ hx
    · rfl
  · rename_i h
    rw [get_append, get_cons]
    split
    · rename_i hk
      rw [if_pos hk.symm, ← hk, get_none_of_not_has (Bool.not_eq_true _ ▸ h)]; rfl
    · rename_i hk
      rw [if_neg fun e => hk e.symm]; exact Option.or_none

theorem get_merge (a b : Row) (k : Bytes) : (a.merge b).get k = (a.get k).orElse fun _ => b.get k := by
  rw [Row.merge, get_append, get_filterKey (fun k => !a.has k), has_eq_get]
  cases a.get k <;> rfl

theorem has_merge (a b : Row) (k : Bytes) : (a.merge b).has k = (a.has k || b.has k) := by
  rw [has_eq_get, has_eq_get, has_eq_get, get_merge]
  cases a.get k <;> rfl

theorem mem_of_get (r : Row) (k : Bytes) (v : Cell) (h : r.get k = some v) : (k, v) ∈ r := by
  obtain ⟨p, hp, rfl⟩ := Option.map_eq_some_iff.mp h
  have hk := List.find?_some hp
  cases eq_of_beq hk
  exact List.mem_of_find?_eq_some hp

theorem isEmpty_iff_has (r : Row) : r.isEmpty = true ↔ ∀ k, r.has k = false := by
  cases r with
  | nil => exact ⟨fun _ _ => rfl, fun _ => rfl⟩
  | cons p r => exact ⟨fun h => (nomatch h), fun h => by have := h p.1; simp [Row.has] at this⟩

theorem merge_nil (r : Row) : r.merge [] = r := by simp [Row.merge]

theorem merge_nil_left (m : Row) : Row.merge [] m = m := by simp [Row.merge, Row.has]

def KeysNodup (r : Row) : Prop := (r.map (·.1)).Nodup

def AllNodup (rows : List Row) : Prop := ∀ r ∈ rows, KeysNodup r

theorem get_of_mem (r : Row) (h : KeysNodup r) (k : Bytes) (v : Cell) (hm : (k, v) ∈ r) : r.get k = some v := by
  obtain ⟨v', hv'⟩ := get_of_has (List.any_eq_true.mpr ⟨_, hm, beq_self_eq_true k⟩)
  cases inj_of_nodup_map h (mem_of_get r k v' hv') hm rfl
  exact hv'

theorem keysNodup_append_single (r : Row) (k : Bytes) (c : Cell) (h : KeysNodup r) (hk : r.get k = none) : KeysNodup (r ++ [(k, c)]) := by
  unfold KeysNodup at *
  rw [List.map_append, List.nodup_append]
  refine ⟨h, List.pairwise_singleton _ _, ?_⟩
  rintro _ hx _ hy rfl
  cases List.mem_singleton.mp hy
  obtain ⟨p, hp, rfl⟩ := List.mem_map.mp hx
  cases hk ▸ get_of_mem r h p.1 p.2 hp

theorem keys_set (r : Row) (k : Bytes) (c : Cell) (hk : r.has k = true) : (r.set k c).map (·.1) = r.map (·.1) := by
  rw [Row.set, if_pos hk, List.map_map]
  apply List.map_congr_left
  intro p _
  simp only [Function.comp]
  split
  · rename_i h; exact (eq_of_beq h).symm
  · rfl

theorem KeysNodup.set {r : Row} (h : KeysNodup r) (k : Bytes) (c : Cell) : KeysNodup (r.set k c) := by
  cases hk : r.has k with
  | true => unfold KeysNodup; rw [keys_set r k c hk]; exact h
  | false =>
    rw [Row.set, if_neg (by rw [hk]; exact Bool.false_ne_true)]
    exact keysNodup_append_single r k c h (get_none_of_not_has hk)

theorem merge_nodup (a b : Row) (ha : KeysNodup a) (hb : KeysNodup b) : KeysNodup (a.merge b) := by
  unfold Row.merge KeysNodup at *
  rw [List.map_append, List.nodup_append]
  refine ⟨ha, hb.sublist (List.filter_sublist.map _), ?_⟩
  rintro _ hx _ hy rfl
  obtain ⟨p, hp, rfl⟩ := List.mem_map.mp hy
  obtain ⟨q, hq, hqe⟩ := List.mem_map.mp hx
  have : a.has p.1 = true := List.any_eq_true.mpr ⟨q, hq, beq_iff_eq.mpr hqe⟩
  simp [this] at hp

def normPredC : Pred → Pred
  | .imm i => .imm i
  | .tmp i t => .tmp i ⟨t.nanos, 0⟩

def normCell : Cell → Cell
  | .time t => .time ⟨t.nanos, 0⟩
  | .pred p => .pred (normPredC p)
  | c => c

theorem predSame_iff' (a b : Pred) : predSame a b = true ↔ normPredC a = normPredC b := by
  cases a <;> cases b <;> simp [predSame, normPredC, Pred.id, Pred.anchor]

theorem cellSame_iff (a b : Cell) : cellSame a b = true ↔ normCell a = normCell b := by
  cases a <;> cases b <;> simp [cellSame, normCell, predSame_iff']

theorem objSame_cell (a b : Obj) : objSame a b = cellSame (objCell a) (objCell b) := by
  cases a <;> cases b <;> rfl

theorem cellSame_comm (a b : Cell) : cellSame a b = cellSame b a :=
  Bool.eq_iff_iff.mpr (by rw [cellSame_iff, cellSame_iff]; exact eq_comm)

/-- A partial function from names to cells, anchors as instants. -/
def den (r : Row) (k : Bytes) : Option Cell := (r.get k).map normCell

def RowEq (r r' : Row) : Prop := ∀ k, (r.get k).map normCell = (r'.get k).map normCell

theorem rowEq_iff {r r' : Row} : RowEq r r' ↔ den r = den r' := ⟨funext, congrFun⟩

theorem RowEq.refl (r : Row) : RowEq r r := fun _ => rfl
theorem RowEq.symm {r r' : Row} (h : RowEq r r') : RowEq r' r := fun k => (h k).symm
theorem RowEq.trans {a b c : Row} (h1 : RowEq a b) (h2 : RowEq b c) : RowEq a c := fun k => (h1 k).trans (h2 k)

theorem rowTime_den (r : Row) (k : Bytes) :
    rowTime r k = match den r k with | some (.time t) => some t.nanos | _ => none := by
  unfold rowTime den
  cases r.get k with
  | none => rfl
  | some v => cases v <;> rfl

theorem has_den (r : Row) (k : Bytes) : r.has k = (den r k).isSome := by rw [has_eq_get, den, Option.isSome_map]

theorem rowEq_has {r r' : Row} (h : RowEq r r') (k : Bytes) : r.has k = r'.has k := by
  rw [has_den, has_den, rowEq_iff.mp h]

theorem rowEq_isEmpty {r r' : Row} (h : RowEq r r') : r.isEmpty = r'.isEmpty := by
  rw [Bool.eq_iff_iff, isEmpty_iff_has, isEmpty_iff_has]
  exact forall_congr' fun k => by rw [rowEq_has h k]

theorem den_merge (a b : Row) : den (a.merge b) = fun k => (den a k).or (den b k) := by
  funext k
  simp only [den, get_merge, Option.orElse_eq_or, Option.map_or]

theorem merge_congr (a a' b b' : Row) (ha : RowEq a a') (hb : RowEq b b') : RowEq (a.merge b) (a'.merge b') := by
  rw [rowEq_iff] at *
  rw [den_merge, den_merge, ha, hb]

inductive RelL : List Row → List Row → Prop
  | nil : RelL [] []
  | cons {a b : Row} {l l' : List Row} : RowEq a b → RelL l l' → RelL (a :: l) (b :: l')

def PermEq (l l' : List Row) : Prop := ∃ m : List Row, l.Perm m ∧ RelL m l'

theorem relL_iff {l l' : List Row} : RelL l l' ↔ l.map den = l'.map den := by
  constructor
  · intro h
    induction h with
    | nil => rfl
    | cons h _ ih => rw [List.map_cons, List.map_cons, rowEq_iff.mp h, ih]
  · intro h
    induction l generalizing l' with
    | nil => cases l' with
      | nil => exact RelL.nil
      | cons _ _ => cases h
    | cons a l ih => cases l' with
      | nil => cases h
      | cons b l' =>
        rw [List.map_cons, List.map_cons, List.cons.injEq] at h
        exact RelL.cons (rowEq_iff.mpr h.1) (ih h.2)

theorem permEq_iff {l l' : List Row} : PermEq l l' ↔ (l.map den).Perm (l'.map den) := by
  constructor
  · rintro ⟨m, hp, hr⟩
    exact relL_iff.mp hr ▸ hp.map den
  · intro h
    obtain ⟨m, hp, hm⟩ := exists_perm_map_eq h
    exact ⟨m, hp, relL_iff.mpr hm⟩

theorem PermEq.of_perm {l l' : List Row} (h : l.Perm l') : PermEq l l' := permEq_iff.mpr (h.map den)
theorem PermEq.of_forall₂ {l l' : List Row} (h : RelL l l') : PermEq l l' := ⟨l, List.Perm.refl l, h⟩

theorem PermEq.append {a b c d : List Row} (h1 : PermEq a b) (h2 : PermEq c d) : PermEq (a ++ c) (b ++ d) := by
  rw [permEq_iff, List.map_append, List.map_append]
  exact (permEq_iff.mp h1).append (permEq_iff.mp h2)

set_option linter.unusedVariables false in
theorem relL_nodup_right {l m : List Row} (h : RelL l m) : True := trivial

def Agree (f g : Bytes → Option Cell) : Prop := ∀ k x y, f k = some x → g k = some y → x = y

theorem Agree.symm {f g : Bytes → Option Cell} (h : Agree f g) : Agree g f := fun k x y hx hy => (h k y x hy hx).symm

theorem compatible_get {r m : Row} {k : Bytes} {v0 v' : Cell} (hc : compatible r m = true)
    (h0 : r.get k = some v0) (h1 : m.get k = some v') : normCell v0 = normCell v' := by
  have := List.all_eq_true.mp hc (k, v0) (mem_of_get r k v0 h0)
  simp only [h1] at this
  exact (cellSame_iff v0 v').mp this

/-- `compatible a b` tests every entry of `a`, also one that an earlier entry with the same key hides from `den a`:
    hence `KeysNodup a`. -/
theorem compatible_iff_agree (a b : Row) (ha : KeysNodup a) : compatible a b = true ↔ Agree (den a) (den b) := by
  constructor
  · intro h k x y hx hy
    obtain ⟨v, hv, rfl⟩ := Option.map_eq_some_iff.mp hx
    obtain ⟨v', hv', rfl⟩ := Option.map_eq_some_iff.mp hy
    exact compatible_get h hv hv'
  · refine fun h => List.all_eq_true.mpr ?_
    rintro ⟨k, v⟩ hp
    show (match b.get k with | some v' => cellSame v v' | none => true) = true
    cases hb : b.get k with
    | none => rfl
    | some v' =>
      exact (cellSame_iff v v').mpr (h k _ _ (congrArg (Option.map normCell) (get_of_mem a ha k v hp))
        (congrArg (Option.map normCell) hb))

theorem compatible_comm {a b : Row} (ha : KeysNodup a) (hb : KeysNodup b) : compatible a b = compatible b a :=
  Bool.eq_iff_iff.mpr ((compatible_iff_agree a b ha).trans (Iff.trans ⟨Agree.symm, Agree.symm⟩ (compatible_iff_agree b a hb).symm))

theorem compatible_congr (a a' b b' : Row) (hna : KeysNodup a) (hna' : KeysNodup a') (ha : RowEq a a') (hb : RowEq b b') :
    compatible a b = compatible a' b' := by
  rw [Bool.eq_iff_iff, compatible_iff_agree a b hna, compatible_iff_agree a' b' hna', rowEq_iff.mp ha, rowEq_iff.mp hb]

theorem compatible_nil (r : Row) : compatible r [] = true :=
  List.all_eq_true.mpr fun _ _ => rfl

theorem compatible_disjoint (r m : Row) (h : ∀ k, m.has k = true → r.has k = false) : compatible r m = true := by
  unfold compatible
  apply List.all_eq_true.mpr
  intro p hp
  have hh : r.has p.1 = true := List.any_eq_true.mpr ⟨p, hp, by simp⟩
  cases hg : m.get p.1 with
  | none => simp [hg]
  | some v => rw [h p.1 (has_of_get hg)] at hh; cases hh

theorem agree_or {f g h : Bytes → Option Cell} (fg : Agree f g) :
    Agree (fun k => (f k).or (g k)) h ↔ Agree f h ∧ Agree g h := by
  constructor
  · intro H
    refine ⟨fun k x y hx hy => H k x y (by simp [hx]) hy, fun k x y hx hy => ?_⟩
    cases hf : f k with
    | none => exact H k x y (by simp [hf, hx]) hy
    | some z => exact (fg k z x hf hx).symm.trans (H k z y (by simp [hf]) hy)
  · rintro ⟨fh, gh⟩ k x y hx hy
    cases hf : f k with
    | none => exact gh k x y (by simpa [hf] using hx) hy
    | some z => exact fh k x y (by simpa [hf] using hx) hy

/-- The union of partial functions is left-biased; extensions that agree can be added in either order. -/
theorem or_right_comm_of_agree {f g h : Bytes → Option Cell} (gh : Agree g h) :
    (fun k => ((f k).or (g k)).or (h k)) = fun k => ((f k).or (h k)).or (g k) := by
  funext k
  cases f k with
  | some _ => rfl
  | none =>
    cases hg : g k with
    | none => cases h k <;> rfl
    | some x =>
      cases hh : h k with
      | none => rfl
      | some y => simp [gh k x y hg hh]

theorem bindStep_none (kv : Bytes × Option Cell) : bindStep none kv = none := by
  unfold bindStep; split
  · rfl
  · cases kv.2 <;> rfl

theorem foldl_bindStep_none (l : List (Bytes × Option Cell)) : l.foldl bindStep none = none :=
  foldl_fixed l fun kv _ => bindStep_none kv

theorem foldl_bindStep_unnamed (L : List (Bytes × Option Cell)) (acc : Option Row) (h : ∀ kv ∈ L, kv.1 = []) :
    L.foldl bindStep acc = acc :=
  foldl_fixed L fun kv hkv => if_pos (h kv hkv)

theorem bindSame_some (r : Row) (k : Bytes) (c : Cell) :
    bindSame (some r) k c = if k = [] then some r else
      if (r.get k).all (cellSame · c) = true then some (r.set k c) else none := by
  simp only [bindSame]
  split
  · rfl
  · cases hg : r.get k with
    | none =>
      simp [Row.set, show r.has k = false from has_of_get hg]
    | some old => rfl

theorem bindStep_inv {r r' : Row} {kv : Bytes × Option Cell} (h : bindStep (some r) kv = some r') :
    (kv.1 = [] ∧ r' = r) ∨ (kv.1 ≠ [] ∧ ∃ c, kv.2 = some c ∧
      (∀ old, r.get kv.1 = some old → normCell old = normCell c) ∧ r' = r.set kv.1 c) := by
  unfold bindStep at h
  split at h
  · rename_i hk; exact .inl ⟨hk, (Option.some.inj h).symm⟩
  · rename_i hk
    split at h
    · cases h
    · rename_i c hc
      rw [bindSame_some, if_neg hk] at h
      split at h
      · rename_i ha
        refine .inr ⟨hk, c, hc, fun old ho => ?_, (Option.some.inj h).symm⟩
        rw [ho] at ha
        exact (cellSame_iff old c).mp ha
      · cases h

theorem bindStep_get {r r' : Row} {kv : Bytes × Option Cell} (h : bindStep (some r) kv = some r') (k' : Bytes) :
    r'.get k' = if k' = kv.1 ∧ kv.1 ≠ [] then kv.2 else r.get k' := by
  rcases bindStep_inv h with ⟨hk, rfl⟩ | ⟨hk, c, hc, _, rfl⟩
  · rw [if_neg fun e => e.2 hk]
  · rw [get_set, hc]
    by_cases hkk : k' = kv.1
    · rw [if_pos hkk, if_pos ⟨hkk, hk⟩]
    · rw [if_neg hkk, if_neg fun e => hkk e.1]

theorem foldl_bindStep_get (L : List (Bytes × Option Cell)) (r0 m : Row) (h : L.foldl bindStep (some r0) = some m) :
    (∀ k v, m.get k = some v → r0.get k = some v ∨ ∃ kv ∈ L, kv.1 = k ∧ k ≠ [] ∧ kv.2 = some v) ∧
    (∀ k v0, r0.get k = some v0 → ∃ v, m.get k = some v ∧ normCell v = normCell v0) ∧
    (∀ kv ∈ L, kv.1 ≠ [] → ∃ v c, kv.2 = some c ∧ m.get kv.1 = some v ∧ normCell v = normCell c) := by
  induction L generalizing r0 with
  | nil =>
    cases h
    exact ⟨fun k v hv => .inl hv, fun k v0 hv => ⟨v0, hv, rfl⟩, fun kv hkv => nomatch hkv⟩
  | cons kv L ih =>
    rw [List.foldl_cons] at h
    cases hb : bindStep (some r0) kv with
    | none => rw [hb, foldl_bindStep_none] at h; cases h
    | some r1 =>
      rw [hb] at h
      obtain ⟨i1, i2, i3⟩ := ih r1 h
      have later : ∀ k v, (∃ kv' ∈ L, kv'.1 = k ∧ k ≠ [] ∧ kv'.2 = some v) → ∃ kv' ∈ kv :: L, kv'.1 = k ∧ k ≠ [] ∧ kv'.2 = some v :=
        fun k v ⟨kv', hm, e⟩ => ⟨kv', List.mem_cons_of_mem _ hm, e⟩
      rcases bindStep_inv hb with ⟨hk, rfl⟩ | ⟨hk, c, hc, hag, rfl⟩
      · refine ⟨fun k v hv => (i1 k v hv).imp_right (later k v), i2, fun kv' hm hk' => ?_⟩
        rcases List.mem_cons.mp hm with rfl | hm'
        · exact absurd hk hk'
        · exact i3 kv' hm' hk'
      · refine ⟨fun k v hv => ?_, fun k v0 hv0 => ?_, fun kv' hm hk' => ?_⟩
        · rcases i1 k v hv with h1 | h1
          · rw [get_set] at h1
            split at h1
            · rename_i e; exact .inr ⟨kv, List.mem_cons_self, e.symm, e ▸ hk, hc.trans h1⟩
            · exact .inl h1
          · exact .inr (later k v h1)
        · by_cases e : k = kv.1
          · obtain ⟨v, hv, hn⟩ := i2 k c (by rw [get_set, if_pos e])
            exact ⟨v, hv, hn.trans (hag v0 (e ▸ hv0)).symm⟩
          · exact i2 k v0 (by rw [get_set, if_neg e]; exact hv0)
        · rcases List.mem_cons.mp hm with rfl | hm'
          · obtain ⟨v, hv, hn⟩ := i2 kv'.1 c (by rw [get_set, if_pos rfl])
            exact ⟨v, c, hc, hv, hn⟩
          · exact i3 kv' hm' hk'

theorem foldl_bindStep_nodup {steps : List (Bytes × Option Cell)} {r0 r' : Row}
    (hb : steps.foldl bindStep (some r0) = some r') (h : KeysNodup r0) : KeysNodup r' := by
  refine List.foldlRecOn (motive := fun acc => ∀ r, acc = some r → KeysNodup r) steps bindStep
    (fun _ hr => Option.some.inj hr ▸ h) (fun acc hacc kv _ r hr => ?_) r' hb
  cases acc with
  | none => rw [bindStep_none] at hr; cases hr
  | some a =>
    rcases bindStep_inv hr with ⟨_, rfl⟩ | ⟨_, c, _, _, rfl⟩
    · exact hacc _ rfl
    · exact (hacc a rfl).set _ c

/-- What the five tests of `matchClause` let through (of the third, and of the intervals in the fifth, nothing is
    kept here). -/
structure Matched (c : Clause) (w : Window) (t : Triple) (r : Row) : Prop where
  consts : constsMatch c t = true
  window : w.holds t.p = true
  steps : (clauseSteps c t).foldl bindStep (some []) = some r
  pID : c.pID ≠ [] → t.p.id = c.pID
  oID : c.oID ≠ [] → ∀ {p}, t.o = .pred p → p.id = c.oID

theorem matchClause_some {c : Clause} {w : Window} {t : Triple} {r : Row} (h : matchClause c w t = some r) :
    Matched c w t r := by
  unfold matchClause at h
  obtain ⟨h1, h⟩ := Option.ite_none_left_eq_some.mp h
  obtain ⟨h2, h⟩ := Option.ite_none_left_eq_some.mp h
  obtain ⟨_, h⟩ := Option.ite_none_left_eq_some.mp h
  obtain ⟨h4, h⟩ := Option.ite_none_left_eq_some.mp h
  obtain ⟨h5, h⟩ := Option.ite_none_left_eq_some.mp h
  refine ⟨by simpa using h1, by simpa using h4, h, fun hp => by simpa [hp] using h2, fun ho {p} hto => ?_⟩
  rw [hto] at h5
  simp [ho] at h5
  exact h5.1.1

theorem matchClause_nodup (c : Clause) (w : Window) (t : Triple) (r : Row) (h : matchClause c w t = some r) : KeysNodup r :=
  foldl_bindStep_nodup (matchClause_some h).steps List.nodup_nil

end BW.Proofs.ClauseOrder
