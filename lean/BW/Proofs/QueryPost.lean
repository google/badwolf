/-
The stages after the graph pattern (C11–C13). `compareRows` is the lexicographic product (`Ordering.then`) of the key
comparisons (`compareRows_cons`, `compareRows_append`); `sortRows` is `mergeSort` also when there is no key;
`havingFilter_spec`: the HAVING stage is `List.filter` when the evaluator answers on every row; `limitRows_prefix`: LIMIT
is `List.take`; `pos_neg_total`: the reference's sum, positives and negatives apart, is the plain sum.
-/
import BW.Model.QueryPost

namespace BW.Proofs.QueryPost
open BW.Model

theorem compare_int (S : Strs) (a b : Int) : compareCells S (.lit (.int a)) (.lit (.int b)) = some (compare a b) := rfl
theorem compare_time (S : Strs) (a b : Time) : compareCells S (.time a) (.time b) = some (compare a.nanos b.nanos) := rfl
theorem compare_text (S : Strs) (a b : Bytes) : compareCells S (.lit (.text a)) (.lit (.text b)) = some (bytesCmp a b) := rfl
theorem compare_kinds_differ_int_text (S : Strs) (a : Int) (b : Bytes) : compareCells S (.lit (.int a)) (.lit (.text b)) = none := rfl
theorem compare_kinds_differ_node_lit (S : Strs) (n : Node) (l : Lit) : compareCells S (.node n) (.lit l) = none := rfl
theorem compare_kinds_differ_time_lit (S : Strs) (t : Time) (l : Lit) : compareCells S (.time t) (.lit l) = none := rfl

/-- 0 where the row holds no int64: total, so that what C12 says of sorting by such a key holds for every table. -/
def intKey (k : Bytes) (r : Row) : Int :=
  match r.get k with
  | some (.lit (.int i)) => i
  | _ => 0

theorem compareRows_cons (S : Strs) (k : Bytes) (d : Bool) (l : List (Bytes × Bool)) (a b : Row) :
    compareRows S ((k, d) :: l) a b = (keyOrd S k d a b).then (compareRows S l a b) := by
  simp only [compareRows]
  cases keyOrd S k d a b <;> rfl

theorem compareRows_append (S : Strs) (l m : List (Bytes × Bool)) (a b : Row) :
    compareRows S (l ++ m) a b = (compareRows S l a b).then (compareRows S m a b) := by
  induction l with
  | nil => rfl
  | cons p l ih => rw [List.cons_append, compareRows_cons, compareRows_cons, ih, Ordering.then_assoc]

/-- With no keys `Table.Sort` returns at once; every row is then ≤ every other, so the rows are sorted as they stand
    and `mergeSort` leaves them. -/
theorem sortRows_eq_mergeSort (S : Strs) (cfg : List (Bytes × Bool)) (rows : List Row) :
    sortRows S cfg rows = rows.mergeSort (rowLe S cfg) := by
  cases cfg with
  | nil => exact (List.mergeSort_of_pairwise (List.pairwise_of_forall fun _ _ => rfl)).symm
  | cons _ _ => rfl

theorem havingFilter_spec (S : Strs) (e : HExpr) (rows : List Row) (f : Row → Bool)
    (hf : ∀ r ∈ rows, evalH S r e = .ok (f r)) : havingFilter S e rows = .ok (rows.filter f) := by
  induction rows with
  | nil => rfl
  | cons x xs ih =>
    simp only [havingFilter, hf x List.mem_cons_self, ih fun r hr => hf r (List.mem_cons_of_mem _ hr), List.filter_cons]

theorem limitRows_prefix (n : Int) (rows : List Row) : limitRows n rows = rows.take (min n.toNat rows.length) := by
  unfold limitRows
  split
  · rw [Nat.min_eq_left (by omega)]
  · rw [Nat.min_eq_right (by omega), List.take_length]

theorem pos_neg_total (xs : List Int) :
    (xs.filter (· > 0)).foldl (· + ·) 0 + (xs.filter (· < 0)).foldl (· + ·) 0 = xs.foldl (· + ·) 0 := by
  simp only [← List.sum_eq_foldl]
  induction xs with
  | nil => rfl
  | cons x xs ih =>
    simp only [List.filter_cons, List.sum_cons, decide_eq_true_eq]
    by_cases h1 : x > 0
    · rw [if_pos h1, if_neg (by omega), List.sum_cons]; omega
    · rw [if_neg h1]
      by_cases h2 : x < 0
      · rw [if_pos h2, List.sum_cons]; omega
      · rw [if_neg h2]; omega

end BW.Proofs.QueryPost
