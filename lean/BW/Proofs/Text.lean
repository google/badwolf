/-
The text forms (C05, C15) on the structural model of BW/Model/Text.lean, under the laws of the leaf codecs
(`LeafLaws`).  How the predicate, literal and triple parsers cut a text of the printed shape (`…_cut`: the round trips),
and that what the node, predicate, literal and object parsers accept meets the premises of its round trip (`…_ok`:
C15's stability; none for triples).
-/
import BW.Model.Text
import BW.Proofs.Lists

namespace BW.Proofs.Text
open BW.Model BW.Model.Text

/-! ### Searching, trimming, splitting -/

private theorem ite_eq_cases {α : Type} {c : Prop} [Decidable c] {x y z : α} (h : (if c then x else y) = z) : x = z ∨ y = z := by
  split at h
  · exact .inl h
  · exact .inr h

theorem lastIndexOf_none (p : UInt8) (ptail s : Bytes) (h : p ∉ s) : lastIndexOf (p :: ptail) s = none := by
  induction s with
  | nil => rfl
  | cons c cs ih =>
    rw [List.mem_cons, not_or] at h
    rw [lastIndexOf, ih h.2, List.isPrefixOf_cons_cons, beq_false_of_ne h.1]; rfl

/-- The last occurrence of a pattern is the one after which its first byte does not come again. -/
theorem lastIndexOf_append (p : UInt8) (ptail a b : Bytes) (h : p ∉ ptail ++ b) :
    lastIndexOf (p :: ptail) (a ++ ((p :: ptail) ++ b)) = some a.length := by
  induction a with
  | nil =>
    rw [List.nil_append, List.cons_append, lastIndexOf, lastIndexOf_none p ptail _ h, ← List.cons_append,
      List.isPrefixOf_iff_prefix.mpr (List.prefix_append _ _)]; rfl
  | cons c cs ih => rw [List.cons_append, lastIndexOf, ih]; rfl

theorem lastIndexOf_some {pat s : Bytes} {i : Nat} (h : lastIndexOf pat s = some i) :
    ∃ a b, s = a ++ (pat ++ b) ∧ a.length = i := by
  induction s generalizing i with
  | nil =>
    rw [lastIndexOf] at h
    split at h
    · cases h; exact ⟨[], [], by simp_all, rfl⟩
    · cases h
  | cons c cs ih =>
    rw [lastIndexOf] at h
    split at h
    · next j hj =>
      cases h
      obtain ⟨a, b, rfl, rfl⟩ := ih hj
      exact ⟨c :: a, b, rfl, rfl⟩
    · split at h
      · next hp =>
        cases h
        obtain ⟨b, hb⟩ := List.isPrefixOf_iff_prefix.mp hp
        exact ⟨[], b, hb.symm, rfl⟩
      · cases h

/-- The parsers' "from position `n` up to the last byte".  With it and the texts written `a ++ c :: … :: (b ++ …)`, the cuts are
    computed without arithmetic: a position is a sum of lengths, dropped piece by piece (`← List.drop_drop`, `List.drop_left`). -/
theorem take_drop_dropLast (l : Bytes) (n : Nat) : (l.drop n).take (l.length - 1 - n) = (l.drop n).dropLast := by
  rw [List.dropLast_eq_take, List.length_drop, Nat.sub_right_comm]

theorem indexOf_first (c : UInt8) (a b : Bytes) (h : c ∉ a) : indexOf [c] (a ++ c :: b) = some a.length := by
  induction a with
  | nil => simp [indexOf, List.isPrefixOf]
  | cons x xs ih =>
    rw [List.mem_cons, not_or] at h
    rw [List.cons_append, indexOf, ih h.2, List.isPrefixOf_cons_cons, beq_false_of_ne h.1]; rfl

theorem trim_id (s : Bytes) (h1 : ∀ c ∈ s.head?, asciiSpace c = false) (h2 : ∀ c ∈ s.getLast?, asciiSpace c = false) :
    trim s = s := by
  have e (l : Bytes) (h : ∀ c ∈ l.head?, asciiSpace c = false) : l.dropWhile asciiSpace = l :=
    (Lists.takeWhile_stop (l := []) nofun h).2
  rw [trim, e s h1, e _ (by rwa [List.head?_reverse]), List.reverse_reverse]

/-- The model's `splitOn` is the library's: its lemmas apply. -/
theorem splitOn_eq (sep : UInt8) (s : Bytes) : splitOn sep s = s.splitOn sep := by
  induction s with
  | nil => rfl
  | cons c cs ih =>
    rw [splitOn, List.foldr_cons, ← splitOn, ih, List.splitOn_cons_eq_if_modifyHead]
    cases h : cs.splitOn sep with
    | nil => exact absurd h (List.splitOn_ne_nil sep cs)
    | cons a rest => rfl

/-! ### Nodes -/

structure NodeOK (n : Node) : Prop where
  ty : validType n.ty = true
  tyNoLt : lt ∉ n.ty
  id : validID n.id = true

theorem validType_cons {t : Bytes} (h : validType t = true) : ∃ r, t = slash :: r := by
  simp only [validType, Bool.and_eq_true, beq_iff_eq] at h
  exact List.head?_eq_some_iff.mp h.1.1.1.2

/-- `node.NewType` refuses angle brackets since fix d18ea1b. -/
theorem validType_noAngle {t : Bytes} (h : validType t = true) : lt ∉ t ∧ gt ∉ t := by
  simp only [validType, containsAny, Bool.and_eq_true, Bool.not_eq_true', List.any_eq_false] at h
  exact ⟨fun hm => h.2 lt hm (by decide), fun hm => h.2 gt hm (by decide)⟩

theorem printNode_head? {n : Node} (h : validType n.ty = true) : (printNode n).head? = some slash := by
  obtain ⟨r, hr⟩ := validType_cons h
  rw [printNode, hr]; rfl

theorem printNode_getLast? (n : Node) : (printNode n).getLast? = some gt := by
  rw [printNode, List.getLast?_concat]

theorem parseNode_printNode (n : Node) (h : NodeOK n) : parseNode (printNode n) = some n := by
  obtain ⟨ty, id⟩ := n
  obtain ⟨hty, hnl, hid⟩ := h
  dsimp only at hty hnl hid
  obtain ⟨r, rfl⟩ := validType_cons hty
  have hraw : printNode ⟨slash :: r, id⟩ = (slash :: r) ++ lt :: (id ++ [gt]) := by simp [printNode]
  have hlast : ((slash :: r) ++ lt :: (id ++ [gt])).getLast? = some gt := hraw ▸ printNode_getLast? _
  have htrim := trim_id ((slash :: r) ++ lt :: (id ++ [gt])) (by rintro _ ⟨⟩; decide) (by rw [hlast]; decide)
  have hlen : ¬ ((slash :: r) ++ lt :: (id ++ [gt])).length < 2 := by simp; omega
  rw [parseNode, hraw]
  simp only [htrim, hlen, if_false]
  rw [List.cons_append]
  simp only [beq_self_eq_true, if_true]
  rw [← List.cons_append, indexOf_first lt _ _ hnl]
  simp only [take_drop_dropLast]
  simp only [← List.drop_drop, List.drop_left, List.drop_succ_cons, List.drop_zero, List.dropLast_concat, List.take_left, hty, hlast,
    hid, Bool.not_true, Bool.false_eq_true, if_false, bne_self_eq_false]

theorem parseNode_ok (s : Bytes) (n : Node) (h : parseNode s = some n) : NodeOK n := by
  rw [parseNode] at h
  generalize trim s = raw at h
  cases raw with
  | nil => rw [ite_self] at h; cases h
  | cons c r =>
    replace h := (Option.ite_none_left_eq_some.mp h).2
    dsimp only at h
    split at h
    · split at h
      · cases h
      · simp only [Option.ite_none_left_eq_some, Option.some.injEq, Bool.not_eq_true, Bool.not_eq_false'] at h
        obtain ⟨hty, -, hid, rfl⟩ := h
        exact ⟨hty, (validType_noAngle hty).1, hid⟩
    · simp only [Option.ite_none_left_eq_some, Option.ite_none_right_eq_some, Option.some.injEq, Bool.not_eq_true,
        Bool.not_eq_false'] at h
      obtain ⟨-, hid, rfl⟩ := h
      exact ⟨(by decide : validType [slash, underscore] = true), (by decide : lt ∉ [slash, underscore]), hid⟩

theorem parseNode_none_of_head_dq (s : Bytes) (ht : trim s = s) (hh : s.head? = some dq) : parseNode s = none := by
  obtain ⟨r, rfl⟩ := List.head?_eq_some_iff.mp hh
  rw [parseNode, ht]
  exact ite_self _

/-! ### Predicates -/

/-- Assumed of Go's leaf codecs (`%q` / `strconv.Unquote`, RFC3339Nano, `%v` / `ParseFloat`): evaluated on Go by
    `bwh leaflaws`, satisfiable (`C05.toyLeaf_laws`). -/
structure LeafLaws (L : Leaf) : Prop where
  unq_quote : ∀ i, L.unquote (L.quote i) = some i
  quote_shape : ∀ i, ∃ body, L.quote i = dq :: (body ++ [dq])
  /-- only for the instants the format can write: `10000-01-01T…` is printed but not read, and the real code fails there -/
  time_round : ∀ t, L.timeOK t = true → L.parseTime (L.fmtTime t) = some t
  time_parsed_ok : ∀ s t, L.parseTime s = some t → L.timeOK t = true
  time_noDq : ∀ t, dq ∉ L.fmtTime t
  time_nonempty : ∀ t, L.fmtTime t ≠ []
  /-- only for the bit patterns a literal holds: every NaN prints as `NaN` and parses to one of them; the real code
      failed there until `Build` kept one NaN (fix c010ae5) -/
  float_round : ∀ b, L.floatOK b = true → L.parseFloat (L.fmtFloat b) = some b
  float_parsed_ok : ∀ s b, L.parseFloat s = some b → L.floatOK b = true
  float_noDq : ∀ b, dq ∉ L.fmtFloat b

/-- A predicate whose anchor the text format can write. -/
def PredOK (L : Leaf) : Pred → Prop
  | .imm _ => True
  | .tmp _ t => L.timeOK t = true

def anchorText (L : Leaf) : Pred → Bytes
  | .imm _ => []
  | .tmp _ t => L.fmtTime t

theorem printPred_eq (L : Leaf) (p : Pred) : printPred L p = L.quote p.id ++ [64, 91] ++ anchorText L p ++ [rb] := by
  cases p <;> simp [printPred, anchorText, Pred.id]

theorem printPred_head? {L : Leaf} (hL : LeafLaws L) (p : Pred) : (printPred L p).head? = some dq := by
  obtain ⟨qb, hq⟩ := hL.quote_shape p.id
  rw [printPred_eq, hq]; rfl

theorem printPred_getLast? (L : Leaf) (p : Pred) : (printPred L p).getLast? = some rb := by
  rw [printPred_eq, List.getLast?_concat]

theorem anchorText_noDq {L : Leaf} (hL : LeafLaws L) (p : Pred) : dq ∉ anchorText L p := by
  cases p with
  | imm i => exact List.not_mem_nil
  | tmp i t => exact hL.time_noDq t

/-- An anchor without quote: the cut is at the quote that closes the ID. -/
theorem parsePred_cut (L : Leaf) (qb a id : Bytes) (ha : dq ∉ a) (hq : L.unquote ((dq :: qb) ++ [dq]) = some id) :
    parsePred L ((dq :: qb) ++ dq :: 64 :: 91 :: (a ++ [rb])) =
      if a.isEmpty then some (.imm id) else (L.parseTime a).map (.tmp id) := by
  have hlast : ((dq :: qb) ++ dq :: 64 :: 91 :: (a ++ [rb])).getLast? = some rb := by simp [List.getLast?_cons]
  have htrim := trim_id ((dq :: qb) ++ dq :: 64 :: 91 :: (a ++ [rb])) (by rintro _ ⟨⟩; decide) (by rw [hlast]; decide)
  have hidx : lastIndexOf sepPred ((dq :: qb) ++ dq :: 64 :: 91 :: (a ++ [rb])) = some (dq :: qb).length :=
    lastIndexOf_append dq [64, 91] (dq :: qb) (a ++ [rb]) (by simp [ha]; decide)
  have hhd : (a.head? == some dq) = false := beq_false_of_ne fun e => ha (List.mem_of_head? e)
  rw [parsePred, htrim]
  simp only [List.isEmpty_iff, List.append_eq_nil_iff, reduceCtorEq, false_and, List.head?_append, List.head?_cons, Option.some_or, hidx,
    hlast, take_drop_dropLast]
  simp only [← List.drop_drop, List.drop_left, List.drop_succ_cons, List.drop_zero, List.dropLast_concat, List.take_length_add_append,
    List.take_succ_cons, List.take_zero, hq, hhd, Bool.and_false, Bool.false_and, bne_self_eq_false, Bool.false_eq_true, if_false]

theorem parsePred_printPred (L : Leaf) (hL : LeafLaws L) (p : Pred) (hp : PredOK L p) : parsePred L (printPred L p) = some p := by
  obtain ⟨qb, hq⟩ := hL.quote_shape p.id
  have hraw : printPred L p = (dq :: qb) ++ dq :: 64 :: 91 :: (anchorText L p ++ [rb]) := by simp [printPred_eq, hq]
  rw [hraw, parsePred_cut L qb _ p.id (anchorText_noDq hL p) (by rw [List.cons_append, ← hq, hL.unq_quote])]
  cases p with
  | imm i => rfl
  | tmp i t => simp [anchorText, hL.time_nonempty t, hL.time_round t hp, Pred.id]

theorem parsePred_ok (L : Leaf) (hL : LeafLaws L) (s : Bytes) (p : Pred) (h : parsePred L s = some p) : PredOK L p := by
  rw [parsePred] at h
  generalize trim s = raw at h
  simp only [Option.ite_none_left_eq_some] at h
  replace h := h.2.2
  split at h
  · cases h
  replace h := (Option.ite_none_left_eq_some.mp h).2
  split at h
  · cases h
  split at h
  · cases h; trivial
  · obtain ⟨t, ht, rfl⟩ := Option.map_eq_some_iff.mp h
    exact hL.time_parsed_ok _ t ht

/-! ### Literals -/

theorem digitByte_spec : ∀ d : Fin 10, (UInt8.ofNat (48 + d.val)).toNat - 48 = d.val ∧ isDigit (UInt8.ofNat (48 + d.val)) = true := by decide

theorem natOfDigits_snoc (a : Bytes) (d : UInt8) : natOfDigits (a ++ [d]) = natOfDigits a * 10 + (d.toNat - 48) := by
  simp [natOfDigits, List.foldl_append]

theorem digits_spec (n : Nat) : natOfDigits (digits n) = n ∧ (digits n).all isDigit = true ∧ digits n ≠ [] := by
  fun_induction digits n with
  | case1 n h =>
    have := digitByte_spec ⟨n, h⟩
    exact ⟨(natOfDigits_snoc [] _).trans (by simpa [natOfDigits] using this.1), by simpa using this.2, List.cons_ne_nil _ _⟩
  | case2 n h ih =>
    have := digitByte_spec ⟨n % 10, Nat.mod_lt _ (by decide)⟩
    refine ⟨?_, ?_, by simp⟩
    · have h1 : (UInt8.ofNat (48 + n % 10)).toNat - 48 = n % 10 := this.1
      rw [natOfDigits_snoc, ih.1, h1]; omega
    · rw [List.all_append, ih.2.1]; simpa using this.2

/-- The set `UUID.IsInt64` also names; no lemma connects the two. -/
def IsI64 (i : Int) : Prop := -9223372036854775808 ≤ i ∧ i ≤ 9223372036854775807

theorem parseInt64_fmtInt (i : Int) (h : IsI64 i) : parseInt64 (fmtInt i) = some i := by
  unfold fmtInt
  split
  · obtain ⟨h1, h2, h3⟩ := digits_spec i.natAbs
    have hb : i.natAbs ≤ 9223372036854775808 := by have := h.1; omega
    simp only [parseInt64, List.head?_cons, beq_self_eq_true, Bool.true_or, if_true, List.drop_succ_cons, List.drop_zero,
      List.isEmpty_eq_false_iff.mpr h3, h2, Bool.not_true, Bool.or_false, Bool.false_eq_true, if_false, h1, hb, Option.some.injEq]
    omega
  · obtain ⟨h1, h2, h3⟩ := digits_spec i.toNat
    obtain ⟨c, cs, hd⟩ := List.exists_cons_of_ne_nil h3
    have hc : isDigit c = true := by rw [hd] at h2; exact (Bool.and_eq_true _ _ ▸ List.all_cons ▸ h2).1
    have h45 : (c == 45) = false := beq_false_of_ne (by rintro rfl; revert hc; decide)
    have h43 : (c == 43) = false := beq_false_of_ne (by rintro rfl; revert hc; decide)
    have hb : i.toNat ≤ 9223372036854775807 := by have := h.2; omega
    rw [parseInt64]
    simp only [hd, List.head?_cons, Option.some_beq_some, h45, h43, Bool.or_self, Bool.false_eq_true, if_false]
    simp only [← hd, List.isEmpty_eq_false_iff.mpr h3, h2, Bool.not_true, Bool.or_false, Bool.false_eq_true, if_false, h1, hb, if_true,
      Option.some.injEq]
    omega

theorem parseInt64_range (s : Bytes) (i : Int) (h : parseInt64 s = some i) : IsI64 i := by
  rw [parseInt64] at h
  generalize (if (s.head? == some 45 || s.head? == some 43) = true then s.drop 1 else s) = ds at h
  replace h := (Option.ite_none_left_eq_some.mp h).2
  unfold IsI64
  obtain h | h := ite_eq_cases h
  · obtain ⟨_, h⟩ := Option.ite_none_right_eq_some.mp h; cases h; omega
  · obtain ⟨_, h⟩ := Option.ite_none_right_eq_some.mp h; cases h; omega

def LitOK (L : Leaf) : Lit → Prop
  | .int i => IsI64 i
  | .float b => L.floatOK b = true
  | _ => True

def blobOf (v : Bytes) : Option Lit :=
  if v.length < 2 || v.head? != some 91 || v.getLast? != some rb then none else
  let values := (v.drop 1).take (v.length - 2)
  if values.isEmpty then some (.blob []) else
  ((splitOn 32 values).mapM parseByte).map .blob

/-- The `switch` of `literal.Parse` on the type name `t`, the text cut at the last `"^^type:` into `v` and `t`. -/
def litOf (L : Leaf) (v t : Bytes) : Option Lit :=
  if t == [98, 111, 111, 108] then (parseBoolText v).map .bool
  else if t == [105, 110, 116, 54, 52] then (parseInt64 v).map .int
  else if t == [102, 108, 111, 97, 116, 54, 52] then (L.parseFloat v).map .float
  else if t == [116, 101, 120, 116] then some (.text v)
  else if t == [98, 108, 111, 98] then blobOf v
  else none

theorem parseLit_def (L : Leaf) (s : Bytes) : parseLit L s =
    if (trim s).isEmpty then none else
    if (trim s).head? != some dq then none else
    match lastIndexOf sepLit (trim s) with
    | none => none
    | some idx =>
      if idx < 1 then none else litOf L (((trim s).take idx).drop 1) ((trim s).drop (idx + sepLit.length)) := rfl

theorem parseLit_cut (L : Leaf) (v t : Bytes) (hd : dq ∉ t) (hne : t ≠ []) (hlast : ∀ c ∈ t.getLast?, asciiSpace c = false) :
    parseLit L ([dq] ++ v ++ sepLit ++ t) = litOf L v t := by
  rw [List.append_assoc]
  have htrim := trim_id ([dq] ++ v ++ (sepLit ++ t)) (by rintro _ ⟨⟩; decide) (by
    rwa [← List.append_assoc, List.getLast?_append, Option.or_of_isSome (by simpa using hne)])
  have hidx : lastIndexOf sepLit ([dq] ++ v ++ (sepLit ++ t)) = some ([dq] ++ v).length :=
    lastIndexOf_append dq [94, 94, 116, 121, 112, 101, 58] ([dq] ++ v) t (by simp [hd]; decide)
  rw [parseLit_def, htrim, hidx]
  simp only [List.take_left, ← List.drop_drop, List.drop_left]
  rfl

theorem parseLit_eq_some {L : Leaf} {s : Bytes} {l : Lit} (h : parseLit L s = some l) :
    ∃ v t, trim s = [dq] ++ v ++ sepLit ++ t ∧ litOf L v t = some l := by
  rw [parseLit_def] at h
  generalize trim s = raw at h
  simp only [Option.ite_none_left_eq_some] at h
  obtain ⟨-, hhd, h⟩ := h
  split at h
  · cases h
  next idx hidx =>
  obtain ⟨hlt, h⟩ := Option.ite_none_left_eq_some.mp h
  obtain ⟨a, t, rfl, rfl⟩ := lastIndexOf_some hidx
  cases a with
  | nil => exact absurd Nat.zero_lt_one hlt
  | cons c v =>
    simp only [List.take_left, ← List.drop_drop, List.drop_left] at h
    cases (bne_eq_false_iff_eq.mp (Bool.not_eq_true _ ▸ hhd) : some c = some dq)
    exact ⟨v, t, (List.append_assoc ..).symm, h⟩

theorem litOf_ok {L : Leaf} (hL : LeafLaws L) {v t : Bytes} {l : Lit} (h : litOf L v t = some l) : LitOK L l := by
  unfold litOf at h
  obtain h | h := ite_eq_cases h
  · obtain ⟨_, -, rfl⟩ := Option.map_eq_some_iff.mp h; trivial
  obtain h | h := ite_eq_cases h
  · obtain ⟨_, hi, rfl⟩ := Option.map_eq_some_iff.mp h; exact parseInt64_range _ _ hi
  obtain h | h := ite_eq_cases h
  · obtain ⟨_, hb, rfl⟩ := Option.map_eq_some_iff.mp h; exact hL.float_parsed_ok _ _ hb
  obtain h | h := ite_eq_cases h
  · cases h; trivial
  obtain h | h := ite_eq_cases h
  · unfold blobOf at h
    obtain h | h := ite_eq_cases h
    · cases h
    obtain h | h := ite_eq_cases h
    · cases h; trivial
    · obtain ⟨_, -, rfl⟩ := Option.map_eq_some_iff.mp h; trivial
  · cases h

theorem parseLit_ok (L : Leaf) (hL : LeafLaws L) (s : Bytes) (l : Lit) (h : parseLit L s = some l) : LitOK L l :=
  let ⟨_, _, _, hl⟩ := parseLit_eq_some h
  litOf_ok hL hl

/-- No type name ends with ']'. -/
theorem litOf_none_of_last_rb (L : Leaf) (v t : Bytes) (h : t.getLast? = some rb) : litOf L v t = none := by
  have key : ∀ name : Bytes, name.getLast? ≠ some rb → (t == name) = false :=
    fun name hn => beq_false_of_ne fun e => hn (e ▸ h)
  simp only [litOf, key [98, 111, 111, 108] (by decide), key [105, 110, 116, 54, 52] (by decide),
    key [102, 108, 111, 97, 116, 54, 52] (by decide), key [116, 101, 120, 116] (by decide),
    key [98, 108, 111, 98] (by decide), Bool.false_eq_true, if_false]

theorem parseLit_none_of_last_rb (L : Leaf) (s : Bytes) (ht : trim s = s) (hl : s.getLast? = some rb) : parseLit L s = none := by
  cases h : parseLit L s with
  | none => rfl
  | some l =>
    obtain ⟨v, t, hs, hv⟩ := parseLit_eq_some h
    cases t with
    | nil => cases hv
    | cons c t =>
      rw [← ht, hs, List.getLast?_append, List.getLast?_cons, Option.some_or, ← List.getLast?_cons] at hl
      rw [litOf_none_of_last_rb L v _ hl] at hv
      cases hv

theorem parseLit_printLit_bool (L : Leaf) (b : Bool) : parseLit L (printLit L (.bool b)) = some (.bool b) :=
  (parseLit_cut L _ [98, 111, 111, 108] (by decide) (by decide) (by decide)).trans (by cases b <;> rfl)

theorem parseLit_printLit_text (L : Leaf) (t : Bytes) : parseLit L (printLit L (.text t)) = some (.text t) :=
  parseLit_cut L t [116, 101, 120, 116] (by decide) (by decide) (by decide)

theorem parseLit_printLit_int (L : Leaf) (i : Int) (h : IsI64 i) : parseLit L (printLit L (.int i)) = some (.int i) :=
  (parseLit_cut L _ [105, 110, 116, 54, 52] (by decide) (by decide) (by decide)).trans
    (congrArg (Option.map Lit.int) (parseInt64_fmtInt i h))

theorem parseLit_printLit_float (L : Leaf) (hL : LeafLaws L) (b : Nat) (hb : L.floatOK b = true) :
    parseLit L (printLit L (.float b)) = some (.float b) :=
  (parseLit_cut L _ [102, 108, 111, 97, 116, 54, 52] (by decide) (by decide) (by decide)).trans
    (congrArg (Option.map Lit.float) (hL.float_round b hb))

/-! ### Blobs -/

theorem parseByte_digits (x : UInt8) : parseByte (digits x.toNat) = some x := by
  obtain ⟨h1, h2, h3⟩ := digits_spec x.toNat
  have hle : x.toNat ≤ 255 := by have := x.toNat_lt; omega
  simp only [parseByte, List.isEmpty_eq_false_iff.mpr h3, h2, Bool.not_true, Bool.or_false, Bool.false_eq_true, if_false, h1, hle,
    if_true, UInt8.ofNat_toNat]

theorem mapM_parseByte (bs : Bytes) : (bs.map fun x => digits x.toNat).mapM parseByte = some bs := by
  induction bs with
  | nil => rfl
  | cons b bs ih => simp only [List.map_cons, List.mapM_cons, parseByte_digits, ih, bind, Option.bind, pure]

theorem blobOf_brackets (inner : Bytes) : blobOf ([91] ++ inner ++ [rb]) =
    if inner.isEmpty then some (.blob []) else ((splitOn 32 inner).mapM parseByte).map .blob := by
  have hlen : decide (([91] ++ inner ++ [rb]).length < 2) = false := by simp
  have hhead : ([91] ++ inner ++ [rb]).head? = some 91 := rfl
  have hvals : (([91] ++ inner ++ [rb]).drop 1).take (([91] ++ inner ++ [rb]).length - 2) = inner :=
    List.take_left' (by simp)
  rw [blobOf]
  simp only [hlen, hhead, List.getLast?_concat, hvals, bne_self_eq_false, Bool.or_self, Bool.false_eq_true, if_false]

theorem blobOf_digits (bs : Bytes) :
    blobOf ([91] ++ List.intercalate [32] (bs.map fun x => digits x.toNat) ++ [rb]) = some (.blob bs) := by
  rw [blobOf_brackets]
  cases bs with
  | nil => rfl
  | cons b rest =>
    have hne : ((b :: rest).map fun x => digits x.toNat) ≠ [] := by simp
    rw [splitOn_eq, List.splitOn_intercalate 32 (by
      intro d hd; obtain ⟨x, _, rfl⟩ := List.mem_map.mp hd
      intro hm; exact absurd (List.all_eq_true.mp (digits_spec x.toNat).2.1 32 hm) (by decide)) hne, mapM_parseByte]
    have hin : List.intercalate [32] ((b :: rest).map fun x => digits x.toNat) ≠ [] := by
      cases rest <;> simp [List.intercalate, (digits_spec b.toNat).2.2]
    rw [List.isEmpty_eq_false_iff.mpr hin]
    rfl

theorem parseLit_printLit_blob (L : Leaf) (bs : Bytes) : parseLit L (printLit L (.blob bs)) = some (.blob bs) := by
  rw [show printLit L (.blob bs) = [dq] ++ ([91] ++ _ ++ [rb]) ++ sepLit ++ [98, 108, 111, 98] from rfl]
  rw [parseLit_cut L _ _ (by decide) (by decide) (by decide), show litOf L _ [98, 108, 111, 98] = blobOf _ from rfl, blobOf_digits]

theorem parseLit_printLit (L : Leaf) (hL : LeafLaws L) (l : Lit) (h : LitOK L l) : parseLit L (printLit L l) = some l := by
  cases l with
  | bool b => exact parseLit_printLit_bool L b
  | int i => exact parseLit_printLit_int L i h
  | float b => exact parseLit_printLit_float L hL b h
  | text t => exact parseLit_printLit_text L t
  | blob bs => exact parseLit_printLit_blob L bs

/-! ### Objects -/

def ObjOK (L : Leaf) : Obj → Prop
  | .node n => NodeOK n
  | .pred p => PredOK L p
  | .lit l => LitOK L l

theorem printLit_head? (L : Leaf) (l : Lit) : (printLit L l).head? = some dq := by
  cases l <;> rfl

theorem printLit_last_not_space (L : Leaf) (l : Lit) : ∀ c ∈ (printLit L l).getLast?, asciiSpace c = false := by
  cases l <;> (rw [printLit, List.getLast?_append]; rintro _ ⟨⟩; rfl)

theorem parseObject_printObj (L : Leaf) (hL : LeafLaws L) (o : Obj) (h : ObjOK L o) : parseObject L (printObj L o) = some o := by
  unfold parseObject parseObjectWith
  cases o with
  | node n => simp only [printObj, parseNode_printNode n h]
  | lit l =>
    have htrim := trim_id (printLit L l) (by rw [printLit_head?]; decide) (printLit_last_not_space L l)
    simp only [printObj, parseNode_none_of_head_dq _ htrim (printLit_head? L l), parseLit_printLit L hL l h]
  | pred p =>
    -- a printed predicate starts with a quote and ends with ']': neither a node nor a literal
    have htrim := trim_id (printPred L p) (by rw [printPred_head? hL]; decide) (by rw [printPred_getLast?]; decide)
    simp only [printObj, parseNode_none_of_head_dq _ htrim (printPred_head? hL p),
      parseLit_none_of_last_rb L _ htrim (printPred_getLast? L p), parsePred_printPred L hL p h, Option.map_some]

theorem parseObject_ok (L : Leaf) (hL : LeafLaws L) (s : Bytes) (o : Obj) (h : parseObject L s = some o) : ObjOK L o := by
  unfold parseObject parseObjectWith at h
  split at h
  · next n hn => cases h; exact parseNode_ok s n hn
  split at h
  · next l hl => cases h; exact parseLit_ok L hL s l hl
  · obtain ⟨p, hp, rfl⟩ := Option.map_eq_some_iff.mp h
    exact parsePred_ok L hL s p hp

/-! ### After its quoted ID a printed predicate holds no white space -/

def noSpace (s : Bytes) : Prop := ∀ c ∈ s, reSpace c = false

structure LeafLaws2 (L : Leaf) : Prop extends LeafLaws L where
  quote_noSpace : ∀ i, (∀ c ∈ i, reSpace c = false) → ∀ c ∈ L.quote i, reSpace c = false
  time_noSpace : ∀ t, ∀ c ∈ L.fmtTime t, reSpace c = false

theorem anchorText_noSpace {L : Leaf} (hL : LeafLaws2 L) (p : Pred) : noSpace (anchorText L p) := by
  cases p with
  | imm i => exact fun _ h => nomatch h
  | tmp i t => exact hL.time_noSpace t

theorem printPred_parts (L : Leaf) (hL : LeafLaws2 L) (p : Pred) :
    ∃ qb A, L.quote p.id = dq :: (qb ++ [dq]) ∧ printPred L p = dq :: (qb ++ dq :: (A ++ [rb])) ∧ noSpace (dq :: A) := by
  obtain ⟨qb, hq⟩ := hL.quote_shape p.id
  exact ⟨qb, [64, 91] ++ anchorText L p, hq, by simp [printPred_eq, hq],
    List.forall_mem_cons.mpr ⟨by decide, List.forall_mem_append.mpr ⟨by decide, anchorText_noSpace hL p⟩⟩⟩

theorem printPred_shape (L : Leaf) (hL : LeafLaws2 L) (p : Pred) (hid : noSpace p.id) :
    ∃ body, printPred L p = dq :: (body ++ [rb]) ∧ noSpace (dq :: body) := by
  obtain ⟨qb, A, hq, hP, hA⟩ := printPred_parts L hL p
  have hns := hL.quote_noSpace p.id hid
  exact ⟨qb ++ dq :: A, by simp [hP],
    List.forall_mem_cons.mpr ⟨by decide, List.forall_mem_append.mpr ⟨fun c hc => hns c (by simp [hq, hc]), hA⟩⟩⟩

/-! ### Triples -/

/-- No match starts at a byte that white space does not follow. -/
theorem findSplit_skip (c x z : UInt8) (nexts : List UInt8) (rest : Bytes) (pos : Nat) (hz : reSpace z = false) :
    findSplit c nexts (x :: z :: rest) pos = findSplit c nexts (z :: rest) (pos + 1) := by
  rw [findSplit]
  split
  · rw [List.takeWhile_cons_of_neg (by simp [hz])]; rfl
  · rfl

theorem findSplit_first (c y : UInt8) (nexts : List UInt8) (a ws rest : Bytes) (pos : Nat)
    (ha : noSpace a) (hc : reSpace c = false)
    (hws : ∀ x ∈ ws, reSpace x = true) (hne : ws ≠ []) (hy : reSpace y = false) (hyn : nexts.contains y = true) :
    findSplit c nexts (a ++ c :: (ws ++ y :: rest)) pos = some (a.length + pos, a.length + ws.length + 2 + pos) := by
  induction a generalizing pos with
  | nil =>
    have hl : decide (ws.length ≥ 1) = true := decide_eq_true (List.length_pos_iff.mpr hne)
    simp only [List.nil_append, findSplit, beq_self_eq_true, if_true, (Lists.takeWhile_stop hws (post := y :: rest) (by simpa using hy)).1, List.drop_left, hl, hyn,
      Bool.and_self, List.length_nil, Option.some.injEq, Prod.mk.injEq]
    constructor <;> omega
  | cons x xs ih =>
    obtain ⟨z, r, hz, he⟩ : ∃ z r, reSpace z = false ∧ xs ++ c :: (ws ++ y :: rest) = z :: r := by
      cases xs with
      | nil => exact ⟨c, _, hc, rfl⟩
      | cons z zs => exact ⟨z, _, ha z (by simp), rfl⟩
    rw [List.cons_append, he, findSplit_skip c x z nexts r pos hz, ← he, ih (pos + 1) fun z hz => ha z (List.mem_cons_of_mem _ hz)]
    simp only [List.length_cons, Option.some.injEq, Prod.mk.injEq]
    constructor <;> omega

theorem printObj_ends (L : Leaf) (hL : LeafLaws L) (o : Obj) (h : ObjOK L o) :
    ∃ oh orest, printObj L o = oh :: orest ∧ (oh = slash ∨ oh = dq) ∧ ∀ c ∈ (oh :: orest).getLast?, asciiSpace c = false := by
  cases o with
  | node n =>
    obtain ⟨r, hr⟩ := List.head?_eq_some_iff.mp (printNode_head? h.ty)
    exact ⟨slash, r, hr, .inl rfl, by rw [← hr, printNode_getLast?]; decide⟩
  | lit l =>
    obtain ⟨r, hr⟩ := List.head?_eq_some_iff.mp (printLit_head? L l)
    exact ⟨dq, r, hr, .inr rfl, hr ▸ printLit_last_not_space L l⟩
  | pred p =>
    obtain ⟨r, hr⟩ := List.head?_eq_some_iff.mp (printPred_head? hL p)
    exact ⟨dq, r, hr, .inr rfl, by rw [← hr, printPred_getLast?]; decide⟩

/-- The scan of a printed (`%q`) ID stops at its closing quote, whatever follows. -/
def QuoteScans (L : Leaf) (id : Bytes) : Prop :=
  ∀ qb, L.quote id = dq :: (qb ++ [dq]) → ∀ rest, scanQuoted (qb ++ dq :: rest) = qb.length

/-- How `parseTripleWith` cuts `subject>⇥"id"anchor]⇥object`: at the first `>\s+"`, past the quoted ID `qb`, at the next `]\s+[/"]`
    (`B`: from the ID's closing quote to before `]`; `hscan` is `QuoteScans` at such a `B`). -/
theorem parseTripleWith_cut (pl : Bytes → Option Lit) (L : Leaf) (line a qb B orest : Bytes) (oh : UInt8)
    (hraw : trim line = a ++ gt :: tab :: dq :: (qb ++ (B ++ rb :: tab :: oh :: orest)))
    (ha : noSpace a) (hscan : ∀ rest, scanQuoted (qb ++ (B ++ rest)) = qb.length) (hB : noSpace B)
    (hoh : oh = slash ∨ oh = dq) :
    parseTripleWith pl L line =
      match parseNode (a ++ [gt]), parsePred L (dq :: (qb ++ (B ++ [rb]))), parseObjectWith pl L (oh :: orest) with
      | some s, some p, some o => some ⟨s, p, o⟩
      | _, _, _ => none := by
  have hsplit1 : findSplit gt [dq] (a ++ gt :: tab :: dq :: (qb ++ (B ++ rb :: tab :: oh :: orest))) 0 =
      some (a.length, a.length + 2 + 1) :=
    findSplit_first gt dq [dq] a [tab] _ 0 ha (by decide) (by decide) (by simp) (by decide) (by decide)
  have hsplit2 : findSplit rb [slash, dq] (B ++ rb :: tab :: oh :: orest) 0 = some (B.length, B.length + 2 + 1) := by
    have hohn : reSpace oh = false ∧ [slash, dq].contains oh = true := by rcases hoh with rfl | rfl <;> decide
    exact findSplit_first rb oh [slash, dq] B [tab] orest 0 hB (by decide) (by decide) (by simp) hohn.1 hohn.2
  rw [parseTripleWith, hraw]
  dsimp only
  rw [hsplit1]
  dsimp only
  simp only [Nat.add_one_sub_one, ← Nat.add_assoc, ← List.drop_drop, List.drop_left, List.drop_succ_cons, List.drop_zero, hscan, hsplit2]
  rw [show List.take (a.length + 1) _ = a ++ [gt] from List.take_length_add_append 1,
    show dq :: (qb ++ (B ++ rb :: tab :: oh :: orest)) = dq :: (qb ++ (B ++ [rb])) ++ tab :: oh :: orest by simp,
    List.take_left' (by simp; omega)]
  rfl

/-! ### The line protocol: WriteGraph then ReadIntoGraph -/

def nonblank (ls : List Bytes) : List Bytes := ls.filter fun l => !(trim l).isEmpty

/-- What `C05.graph_round_trip` assumes of every triple written; no theorem derives any of the four.  `noLF` is known
    finding D06 (a text literal may hold a line feed); `roundTrip` is the conclusion of `C05.triple_round_trip`, under
    whose hypotheses `notBlank` and `noCR` hold too. -/
structure LineOK (L : Leaf) (t : Triple) : Prop where
  noLF : (10 : UInt8) ∉ printTriple L t
  roundTrip : parseTriple L (printTriple L t) = some t
  notBlank : (trim (printTriple L t)).isEmpty = false
  noCR : (printTriple L t).getLast? ≠ some 13

theorem splitLines_append_lf (a b : Bytes) (h : (10 : UInt8) ∉ a) (hcr : a.getLast? ≠ some 13) :
    splitLines (a ++ 10 :: b) = a :: splitLines b := by
  rw [splitLines, splitOn_eq, List.splitOn_append_cons_self_of_not_mem h, List.map_cons, ← splitOn_eq, ← splitLines]
  congr 1
  split
  · next hl => exact absurd hl hcr
  · rfl

theorem splitLines_writeLines (L : Leaf) (ts : List Triple) (h : ∀ t ∈ ts, LineOK L t) :
    splitLines (writeLines L ts) = ts.map (printTriple L) ++ [[]] := by
  induction ts with
  | nil => rfl
  | cons t ts ih =>
    have ht := h t List.mem_cons_self
    rw [show writeLines L (t :: ts) = printTriple L t ++ 10 :: writeLines L ts by simp [writeLines],
      splitLines_append_lf _ _ ht.noLF ht.noCR, ih fun x hx => h x (List.mem_cons_of_mem _ hx)]
    rfl

theorem readLines_append_blank (L : Leaf) (ls : List Bytes) : readLines L (ls ++ [[]]) = readLines L ls := by
  induction ls with
  | nil => simp [readLines, trim]
  | cons l ls ih =>
    simp only [List.cons_append]
    unfold readLines
    rw [ih]

end BW.Proofs.Text
