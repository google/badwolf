/-
The statement model (C04): graphs as sets of normalised triples; the three folds over graph names (`update`,
CREATE, DROP) through what one step does to the graph under a name; templates and the blank nodes handed out.
-/
import BW.Model.Statements
import BW.Proofs.Assoc
import BW.Proofs.Row

namespace BW.Proofs.Statements
open BW.Model BW.Spec BW.Model.Stm
open BW.Proofs.Lists (bind_eq_ok foldl_keeps foldl_fixed)

def normTime (t : Time) : Time := ⟨t.nanos, 0⟩
def normPred : Pred → Pred
  | .imm i => .imm i
  | .tmp i t => .tmp i (normTime t)
def normObj : Obj → Obj
  | .node n => .node n
  | .pred p => .pred (normPred p)
  | .lit l => .lit l
def normT (t : Triple) : Triple := ⟨t.s, normPred t.p, normObj t.o⟩

theorem predSame_iff (a b : Pred) : predSame a b = true ↔ normPred a = normPred b := by
  -- `normPredC` (`Row.lean`, imported for this alone) is the same function; property statements mention both
  rw [show normPred = ClauseOrder.normPredC from funext fun p => by cases p <;> rfl]
  exact ClauseOrder.predSame_iff' a b

theorem objSame_iff (a b : Obj) : objSame a b = true ↔ normObj a = normObj b := by
  cases a <;> cases b <;> simp [objSame, normObj, predSame_iff]

theorem tripleSame_iff (a b : Triple) : tripleSame a b = true ↔ normT a = normT b := by
  cases a; cases b
  simp [tripleSame, normT, predSame_iff, objSame_iff, and_assoc]

def Sem (g : VGraph) (k : Triple) : Prop := k ∈ g.map normT

theorem has_iff (g : VGraph) (t : Triple) : g.has t = true ↔ Sem g (normT t) := by
  simp only [VGraph.has, List.any_eq_true, tripleSame_iff, Sem, List.mem_map]
  exact exists_congr fun _ => and_congr_right fun _ => eq_comm

theorem sem_add (g : VGraph) (t k : Triple) : Sem (g.add t) k ↔ Sem g k ∨ k = normT t := by
  unfold VGraph.add
  split
  · rename_i h
    exact ⟨.inl, fun h' => h'.elim id fun e => e ▸ (has_iff g t).mp h⟩
  · simp only [Sem, List.map_append, List.mem_append, List.map_cons, List.map_nil, List.mem_singleton]

theorem sem_rem (g : VGraph) (t k : Triple) : Sem (g.rem t) k ↔ Sem g k ∧ k ≠ normT t := by
  simp only [VGraph.rem, Sem, List.mem_map, List.mem_filter, Bool.not_eq_true', ← Bool.not_eq_true, tripleSame_iff]
  constructor
  · rintro ⟨x, ⟨hx, hne⟩, rfl⟩
    exact ⟨⟨x, hx, rfl⟩, fun h => hne h.symm⟩
  · rintro ⟨⟨x, hx, rfl⟩, hne⟩
    exact ⟨x, ⟨hx, fun h => hne h.symm⟩, rfl⟩

theorem sem_addAll (g : VGraph) (ts : List Triple) (k : Triple) : Sem (g.addAll ts) k ↔ Sem g k ∨ k ∈ ts.map normT := by
  unfold VGraph.addAll
  induction ts generalizing g with
  | nil => simp
  | cons t ts ih => simp only [List.foldl_cons, ih, sem_add, List.map_cons, List.mem_cons, or_assoc]

theorem sem_remAll (g : VGraph) (ts : List Triple) (k : Triple) : Sem (g.remAll ts) k ↔ Sem g k ∧ k ∉ ts.map normT := by
  unfold VGraph.remAll
  induction ts generalizing g with
  | nil => simp
  | cons t ts ih => simp only [List.foldl_cons, ih, sem_rem, List.map_cons, List.mem_cons, not_or, and_assoc, ne_eq]

theorem addAll_of_has {g : VGraph} {ts : List Triple} (h : ∀ t ∈ ts, g.has t = true) : g.addAll ts = g :=
  foldl_fixed ts fun t ht => by rw [VGraph.add, if_pos (h t ht)]

theorem remAll_of_not_has {g : VGraph} {ts : List Triple} (h : ∀ t ∈ ts, g.has t = false) : g.remAll ts = g :=
  foldl_fixed ts fun t ht => List.filter_eq_self.mpr fun x hx => by
    simpa using List.any_eq_false.mp (h t ht) x hx

/-- So a graph listed twice among the targets is no special case. -/
theorem addAll_idem (ts : List Triple) (g : VGraph) : (g.addAll ts).addAll ts = g.addAll ts :=
  addAll_of_has fun _ ht => (has_iff _ _).mpr ((sem_addAll _ _ _).mpr (.inr (List.mem_map_of_mem ht)))

theorem remAll_idem (ts : List Triple) (g : VGraph) : (g.remAll ts).remAll ts = g.remAll ts :=
  remAll_of_not_has fun _ ht => by
    rw [← Bool.not_eq_true, has_iff, sem_remAll]
    exact fun h => h.2 (List.mem_map_of_mem ht)

def SemAt (s : VStore) (n : Bytes) (k : Triple) : Prop := ∃ g, s.get n = some g ∧ Sem g k

theorem exists_eq (s : VStore) (n : Bytes) : s.exists n = (s.get n).isSome := Assoc.any_key s.graphs n

theorem get_of_not_exists {s : VStore} {n : Bytes} (h : ¬ s.exists n = true) : s.get n = none := by
  rwa [exists_eq, Option.not_isSome_iff_eq_none] at h

def stepU (f : VGraph → VGraph) (acc : VStore × Outcome) (n : Bytes) : VStore × Outcome :=
  if acc.1.exists n then (acc.1.update n f, acc.2) else (acc.1, .failed)

def stepC (acc : VStore × Outcome) (n : Bytes) : VStore × Outcome :=
  if acc.1.exists n then (acc.1, .failed) else ({ acc.1 with graphs := acc.1.graphs ++ [(n, [])] }, acc.2)

def stepD (acc : VStore × Outcome) (n : Bytes) : VStore × Outcome :=
  if acc.1.exists n then ({ acc.1 with graphs := acc.1.graphs.filter (·.1 != n) }, acc.2) else (acc.1, .failed)

theorem updateAll_eq (st : VStore) (targets : List Bytes) (f : VGraph → VGraph) :
    updateAll st targets f = targets.foldl (stepU f) (st, .ok) := rfl
theorem execCreate_eq (st : VStore) (names : List Bytes) : execCreate st names = names.foldl stepC (st, .ok) := rfl
theorem execDrop_eq (st : VStore) (names : List Bytes) : execDrop st names = names.foldl stepD (st, .ok) := rfl

/-- What a step of a fold over names does to the store: it rewrites the graph under its own name by `φ`, and whether
    that name exists does not show in it. -/
def ActsBy (step : VStore × Outcome → Bytes → VStore × Outcome) (φ : Option VGraph → Option VGraph) : Prop :=
  ∀ acc n m, (step acc n).1.get m = if m = n then φ (acc.1.get m) else acc.1.get m

theorem stepU_acts (f : VGraph → VGraph) : ActsBy (stepU f) (Option.map f) := by
  intro acc n m
  by_cases h : acc.1.exists n = true
  · rw [stepU, if_pos h]
    exact Assoc.get_update _ n m f
  · rw [stepU, if_neg h]
    by_cases e : m = n
    · rw [if_pos e, e, get_of_not_exists h]; rfl
    · rw [if_neg e]

theorem stepC_acts : ActsBy stepC (·.or (some [])) := by
  intro acc n m
  by_cases h : acc.1.exists n = true
  · rw [stepC, if_pos h]
    by_cases e : m = n
    · obtain ⟨g, hg⟩ := Option.isSome_iff_exists.mp ((exists_eq _ _).symm.trans h)
      rw [if_pos e, e, hg]; rfl
    · rw [if_neg e]
  · rw [stepC, if_neg h]
    refine (Assoc.get_append _ _ m).trans ?_
    rw [Assoc.get_cons]
    by_cases e : m = n
    · rw [if_pos e, if_pos e.symm]; rfl
    · rw [if_neg e, if_neg (Ne.symm e)]; exact Option.or_none

theorem stepD_acts : ActsBy stepD fun _ => none := by
  intro acc n m
  by_cases h : acc.1.exists n = true
  · rw [stepD, if_pos h]
    exact Assoc.get_filter _ n m
  · rw [stepD, if_neg h]
    by_cases e : m = n
    · rw [if_pos e, e, get_of_not_exists h]
    · rw [if_neg e]

theorem stepU_exists (f : VGraph → VGraph) (acc : VStore × Outcome) (n m : Bytes) :
    (stepU f acc n).1.exists m = acc.1.exists m := by
  rw [exists_eq, exists_eq, stepU_acts f acc n m]
  by_cases e : m = n
  · rw [if_pos e, Option.isSome_map]
  · rw [if_neg e]

theorem stepC_ok (acc : VStore × Outcome) (n : Bytes) (h : (stepC acc n).2 = .ok) :
    acc.2 = .ok ∧ acc.1.exists n = false := by
  unfold stepC at h
  split at h
  · cases h
  · rename_i he; exact ⟨h, Bool.eq_false_iff.mpr he⟩

theorem stepD_ok (acc : VStore × Outcome) (n : Bytes) (h : (stepD acc n).2 = .ok) :
    acc.2 = .ok ∧ acc.1.exists n = true := by
  unfold stepD at h
  split at h
  · rename_i he; exact ⟨h, he⟩
  · cases h

namespace ActsBy

/-- Effect and frame of a fold over names in one equation; `φ` idempotent because a name may be listed twice. -/
theorem foldl_get {step : VStore × Outcome → Bytes → VStore × Outcome} {φ : Option VGraph → Option VGraph}
    (hstep : ActsBy step φ) (hφ : ∀ x, φ (φ x) = φ x) (names : List Bytes) (acc : VStore × Outcome) (m : Bytes) :
    (names.foldl step acc).1.get m = if m ∈ names then φ (acc.1.get m) else acc.1.get m := by
  induction names generalizing acc with
  | nil => rfl
  | cons n ns ih =>
    rw [List.foldl_cons, ih, hstep]
    by_cases h : m = n
    · rw [if_pos h, hφ, ite_self, if_pos (List.mem_cons.mpr (.inl h))]
    · rw [if_neg h]
      exact ite_congr (by simp only [List.mem_cons, h, false_or]) (fun _ => rfl) (fun _ => rfl)

/-- `hφ`: a step can only move names away from `b`, so every listed name passed the test in the initial store
    already. -/
theorem foldl_ok {step : VStore × Outcome → Bytes → VStore × Outcome} {φ : Option VGraph → Option VGraph} {b : Bool}
    (hstep : ActsBy step φ) (hφ : ∀ x, (φ x).isSome = b → x.isSome = b)
    (hok : ∀ acc n, (step acc n).2 = .ok → acc.2 = .ok ∧ acc.1.exists n = b)
    (names : List Bytes) (acc : VStore × Outcome) (h : (names.foldl step acc).2 = .ok) :
    acc.2 = .ok ∧ ∀ n ∈ names, acc.1.exists n = b := by
  induction names generalizing acc with
  | nil => exact ⟨h, nofun⟩
  | cons n ns ih =>
    obtain ⟨h1, hx⟩ := ih _ h
    obtain ⟨ha, hn⟩ := hok _ _ h1
    refine ⟨ha, List.forall_mem_cons.mpr ⟨hn, fun x hxm => ?_⟩⟩
    have := hx x hxm
    rw [exists_eq, hstep] at this
    rw [exists_eq]
    split at this
    · exact hφ _ this
    · exact this

end ActsBy

theorem updateAll_get {f : VGraph → VGraph} (hf : ∀ g, f (f g) = f g) (st : VStore) (targets : List Bytes) (m : Bytes) :
    (updateAll st targets f).1.get m = if m ∈ targets then (st.get m).map f else st.get m :=
  (stepU_acts f).foldl_get
    (fun x => by rw [Option.map_map]; exact congrArg (Option.map · x) (funext hf)) targets (st, .ok) m

theorem updateAll_nextBlank (st : VStore) (targets : List Bytes) (f : VGraph → VGraph) :
    (updateAll st targets f).1.nextBlank = st.nextBlank :=
  foldl_keeps (step := stepU f) (·.1.nextBlank) targets (fun s n _ => by unfold stepU; split <;> rfl) (st, .ok)

theorem foldC_nextBlank (names : List Bytes) (acc : VStore × Outcome) : (names.foldl stepC acc).1.nextBlank = acc.1.nextBlank :=
  foldl_keeps (·.1.nextBlank) names (fun s n _ => by unfold stepC; split <;> rfl) acc

theorem foldU_outcome (f : VGraph → VGraph) (targets : List Bytes) (acc : VStore × Outcome) :
    (targets.foldl (stepU f) acc).2 = .ok ↔ acc.2 = .ok ∧ ∀ n ∈ targets, acc.1.exists n = true := by
  induction targets generalizing acc with
  | nil => simp
  | cons n ns ih =>
    simp only [List.foldl_cons, ih, List.mem_cons, forall_eq_or_imp, stepU_exists, ← and_assoc]
    refine and_congr_left fun _ => ?_
    unfold stepU
    split
    · rename_i h; exact (and_iff_left h).symm
    · rename_i h; exact ⟨nofun, fun h' => absurd h'.2 h⟩

theorem updateAll_frame (st : VStore) (targets : List Bytes) (f : VGraph → VGraph) :
    (∀ m, m ∉ targets → (updateAll st targets f).1.get m = st.get m) ∧
    (∀ m, (updateAll st targets f).1.exists m = st.exists m) ∧
    ((updateAll st targets f).2 = .ok ↔ ∀ n ∈ targets, st.exists n = true) :=
  ⟨fun m hm => foldl_keeps (step := stepU f) (·.1.get m) targets
      (fun s n hn => by rw [stepU_acts f s n m, if_neg fun e : m = n => hm (e ▸ hn)]) (st, .ok),
    fun m => foldl_keeps (step := stepU f) (·.1.exists m) targets (fun s n _ => stepU_exists f s n m) (st, .ok),
    (foldU_outcome f targets (st, .ok)).trans (and_iff_right rfl)⟩

theorem updateAll_add (st : VStore) (targets : List Bytes) (D : List Triple) (m : Bytes) (k : Triple) :
    SemAt (updateAll st targets (·.addAll D)).1 m k ↔
      SemAt st m k ∨ (m ∈ targets ∧ st.exists m = true ∧ k ∈ D.map normT) := by
  unfold SemAt
  rw [updateAll_get (addAll_idem D), exists_eq]
  by_cases hm : m ∈ targets <;> cases st.get m <;> simp [hm, sem_addAll, -List.mem_map]

theorem updateAll_rem (st : VStore) (targets : List Bytes) (D : List Triple) (m : Bytes) (k : Triple) :
    SemAt (updateAll st targets (·.remAll D)).1 m k ↔ SemAt st m k ∧ ¬ (m ∈ targets ∧ k ∈ D.map normT) := by
  unfold SemAt
  rw [updateAll_get (remAll_idem D)]
  by_cases hm : m ∈ targets <;> cases st.get m <;> simp [hm, sem_remAll, -List.mem_map]

theorem blankNode_inj (i j : Nat) (h : blankNode i = blankNode j) : i = j := by
  unfold blankNode at h
  have := congrArg (fun n : Node => n.id.length) h
  simpa using this

theorem reify_shape (b : Node) (t : Triple) :
    reify b t = [⟨b, reifPred subjectId t.p, .node t.s⟩, ⟨b, reifPred predicateId t.p, .pred t.p⟩, ⟨b, reifPred objectId t.p, t.o⟩] := rfl

theorem reifPred_anchor (id : Bytes) (p : Pred) : (reifPred id p).anchor = p.anchor ∧ (reifPred id p).id = id := by
  cases p <;> simp [reifPred, Pred.anchor, Pred.id]

theorem instClause_ok {hasB : Bytes → Bool} {cc : CClause} {b : Node} {r : Row} {ts : List Triple} {used : Bool}
    (h : instClause hasB cc b r = .ok (ts, used)) :
    ∃ first rest s p o t, cc.pairs = first :: rest ∧ instSubject hasB r cc = .ok s ∧ instPred hasB r first = .ok p ∧
      instObj hasB r first = .ok o ∧ mkTriple s p o = .ok t ∧
      if rest = [] then ts = [t] ∧ used = false
      else ∃ extras, rest.mapM (instExtra hasB r b) = .ok extras ∧ ts = reify b t ++ extras ∧ used = true := by
  unfold instClause at h
  split at h
  · cases h
  · rename_i first rest hp
    simp only [bind_eq_ok] at h
    obtain ⟨s, hs, p, hpp, o, ho, t, ht, h⟩ := h
    refine ⟨first, rest, s, p, o, t, hp, hs, hpp, ho, ht, ?_⟩
    split at h
    · rename_i he
      rw [if_pos (List.isEmpty_iff.mp he)]
      cases h
      exact ⟨rfl, rfl⟩
    · rename_i he
      rw [if_neg (mt List.isEmpty_iff.mpr he)]
      obtain ⟨extras, hm, h⟩ := bind_eq_ok.mp h
      cases h
      exact ⟨extras, hm, rfl, rfl⟩

theorem mkTriple_subject {s : Node} {p : Option Pred} {o : Option Obj} {t : Triple} (h : mkTriple (some s) p o = .ok t) :
    t.s = s := by
  cases p <;> cases o <;> cases h
  rfl

theorem instExtra_subject {hasB : Bytes → Bool} {r : Row} {b : Node} {pp : POPair} {t : Triple}
    (h : instExtra hasB r b pp = .ok t) : t.s = b := by
  unfold instExtra at h
  simp only [bind_eq_ok] at h
  obtain ⟨p, _, o, _, h⟩ := h
  exact mkTriple_subject h

/-- `instAll` as a recursion over the (clause, row) pairs. -/
def instSeq (hasB : Bytes → Bool) : List (CClause × Row) → Nat → Except TErr (List Triple × Nat)
  | [], n => .ok ([], n)
  | (cc, r) :: rest, n =>
    match instClause hasB cc (blankNode n) r with
    | .error e => .error e
    | .ok (ts, used) =>
      match instSeq hasB rest (if used then n + 1 else n) with
      | .error e => .error e
      | .ok (ts', n') => .ok (ts ++ ts', n')

theorem foldlM_inst (hasB : Bytes → Bool) (ps : List (CClause × Row)) (pre : List Triple) (n : Nat) :
    ps.foldlM (fun (acc : List Triple × Nat) (cr : CClause × Row) => do
        let (ts, used) ← instClause hasB cr.1 (blankNode acc.2) cr.2
        pure (acc.1 ++ ts, if used then acc.2 + 1 else acc.2)) (pre, n) =
      (instSeq hasB ps n).map fun x => (pre ++ x.1, x.2) := by
  induction ps generalizing pre n with
  | nil => exact congrArg (fun l => Except.ok (l, n)) (List.append_nil pre).symm
  | cons cr ps ih =>
    obtain ⟨cc, r⟩ := cr
    rw [List.foldlM_cons, instSeq]
    cases instClause hasB cc (blankNode n) r with
    | error e => rfl
    | ok x =>
      obtain ⟨ts, used⟩ := x
      refine (ih _ _).trans ?_
      dsimp only
      cases instSeq hasB ps (if used then n + 1 else n) with
      | error e => rfl
      | ok y => exact congrArg (fun l => Except.ok (l, y.2)) (List.append_assoc pre ts y.1)

theorem instAll_eq (hasB : Bytes → Bool) (ccs : List CClause) (rows : List Row) (n : Nat) :
    instAll hasB ccs rows n = instSeq hasB (ccs.flatMap fun cc => rows.map fun r => (cc, r)) n := by
  refine (foldlM_inst hasB _ [] n).trans ?_
  cases instSeq hasB _ n <;> rfl

def handed (hasB : Bytes → Bool) : List (CClause × Row) → Nat → List Nat
  | [], _ => []
  | (cc, r) :: rest, n =>
    match instClause hasB cc (blankNode n) r with
    | .ok (_, true) => n :: handed hasB rest (n + 1)
    | .ok (_, false) => handed hasB rest n
    | .error _ => []

/-- The counters handed out are consecutive from `n`: each blank node is new, and none is handed out again. -/
theorem handed_eq_range' {hasB : Bytes → Bool} {ps : List (CClause × Row)} {n n' : Nat} {ts : List Triple}
    (h : instSeq hasB ps n = .ok (ts, n')) : ∃ c, n' = n + c ∧ handed hasB ps n = List.range' n c := by
  fun_induction instSeq hasB ps n generalizing ts n'
  case case1 => cases h; exact ⟨0, rfl, rfl⟩
  case case4 n _ used hc _ _ hr ih =>
    cases h
    obtain ⟨c, rfl, hh⟩ := ih hr
    rw [handed, hc]
    cases used
    · exact ⟨c, rfl, hh⟩
    · exact ⟨c + 1, Nat.add_right_comm n 1 c, congrArg (n :: ·) hh⟩
  all_goals cases h  -- 2, 3: an error

end BW.Proofs.Statements
