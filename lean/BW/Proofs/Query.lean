/-
The planner model on its own (C03, C10): OPTIONAL never removes rows; `addSpecifiedData` and `processClause` by cases.
-/
import BW.Model.Query
import BW.Proofs.Lists

namespace BW.Proofs.Query
open BW.Model BW.Proofs.Lists

/-- `?__exists`: the subject alias the planner gives a clause that binds nothing, to probe it. -/
def existsAlias : Bytes := [63, 95, 95, 101, 120, 105, 115, 116, 115]

def Extends (r' r : Row) : Prop := ∃ ext, r' = r ++ ext

theorem Extends.refl (r : Row) : Extends r r := ⟨[], (List.append_nil r).symm⟩

theorem merge_extends (a b : Row) : Extends (a.merge b) a := ⟨_, rfl⟩

theorem joinRow_extends (r : Row) (opt : Bool) (bs : List Bytes) (fetched : List Row) :
    ∀ r' ∈ joinRow r opt bs fetched, Extends r' r := by
  unfold joinRow
  simp only
  split
  · intro r' hr; rw [List.mem_singleton.mp hr]; exact merge_extends _ _
  · intro r' hr
    obtain ⟨nr, _, rfl⟩ := List.mem_map.mp hr
    exact merge_extends _ _

theorem joinRow_optional (r : Row) (bs : List Bytes) (fetched : List Row) :
    joinRow r true bs fetched ≠ [] ∧ ∀ r' ∈ joinRow r true bs fetched, Extends r' r := by
  refine ⟨?_, joinRow_extends r true bs fetched⟩
  unfold joinRow
  simp only
  split
  · exact List.cons_ne_nil _ _
  · rename_i he
    intro hnil
    apply he
    rw [List.map_eq_nil_iff.mp hnil]; rfl

theorem leftOptional_keeps (t : Tbl) (bs : List Bytes) (rows : List Row) (t' : Tbl)
    (h : t.leftOptional bs rows = .ok t') : ∀ r ∈ t.rows, ∃ r' ∈ t'.rows, Extends r' r := by
  unfold Tbl.leftOptional at h
  split at h
  · cases h
    exact fun r hr => ⟨r, hr, .refl r⟩
  split at h
  · cases h
    exact fun r hr => ⟨_, List.mem_map_of_mem hr, merge_extends _ _⟩
  rename_i hcase
  unfold Tbl.dot at h
  split at h
  · cases h
  rename_i hdis
  cases h
  -- the bindings are disjoint, so the optional side has rows: otherwise the previous branch applies
  cases rows with
  | nil => exact absurd (by simpa using hdis) hcase
  | cons x xs =>
    exact fun r hr => ⟨r.merge x, List.mem_flatMap.mpr ⟨r, hr, List.mem_map_of_mem (.head _)⟩, merge_extends _ _⟩

/-- What `addSpecifiedData` did when it succeeded: a probe for a specialised clause that extracts nothing, else a fetch
    joined with the row. -/
theorem addSpecifiedData_inv {F : Facts} {gs : List QGraph} {r : Row} {c : Clause} {lo : QOpts} {n : Int} {out : List Row}
    (h : addSpecifiedData F gs r c lo n = .ok out) :
    ∃ c' lo', specialiseO r c lo = .ok (c', lo') ∧
      ((c'.extractsNothing = true ∧ ∃ rows, simpleFetch F gs { c' with sAlias := existsAlias } lo' 0 = .ok rows ∧
          out = if (!rows.isEmpty || c.optional) = true then [r] else []) ∨
       (c'.extractsNothing = false ∧ ∃ fetched, simpleFetch F gs c' lo' n = .ok fetched ∧
          out = joinRow r c.optional c'.bindings fetched)) := by
  unfold addSpecifiedData at h
  obtain ⟨⟨c', lo'⟩, hsp, h⟩ := bind_eq_ok.mp h
  refine ⟨c', lo', hsp, ?_⟩
  dsimp only at h
  split at h
  · rename_i hex
    obtain ⟨rows, hfe, h⟩ := bind_eq_ok.mp h
    exact .inl ⟨hex, rows, hfe, (Except.ok.inj h).symm⟩
  · rename_i hex
    obtain ⟨fetched, hfe, h⟩ := bind_eq_ok.mp h
    exact .inr ⟨Bool.eq_false_iff.mpr hex, fetched, hfe, (Except.ok.inj h).symm⟩

theorem addSpecifiedData_optional (F : Facts) (gs : List QGraph) (r : Row) (c : Clause) (lo : QOpts) (lim : Int)
    (rows : List Row) (hc : c.optional = true) (h : addSpecifiedData F gs r c lo lim = .ok rows) :
    rows ≠ [] ∧ ∀ r' ∈ rows, Extends r' r := by
  obtain ⟨c', _, _, ⟨_, _, _, rfl⟩ | ⟨_, fetched, _, rfl⟩⟩ := addSpecifiedData_inv h
  · rw [hc, Bool.or_true, if_pos rfl]
    exact ⟨List.cons_ne_nil _ _, fun r' hr' => List.mem_singleton.mp hr' ▸ .refl r⟩
  · exact hc ▸ joinRow_optional r _ fetched

theorem specifyAll_cons {F : Facts} {gs : List QGraph} {c : Clause} {lo : QOpts} {n : Int} {r : Row} {rs out : List Row}
    (h : specifyAll F gs c lo n (r :: rs) = .ok out) :
    ∃ a b, addSpecifiedData F gs r c lo n = .ok a ∧ specifyAll F gs c lo n rs = .ok b ∧ out = a ++ b := by
  unfold specifyAll at h
  split at h
  · cases h
  · rename_i a ha
    split at h
    · cases h
    · rename_i b hb
      exact ⟨a, b, ha, hb, (Except.ok.inj h).symm⟩

theorem specifyAll_optional (F : Facts) (gs : List QGraph) (c : Clause) (lo : QOpts) (lim : Int) (hc : c.optional = true)
    (rows out : List Row) (h : specifyAll F gs c lo lim rows = .ok out) :
    ∀ r ∈ rows, ∃ r' ∈ out, Extends r' r := by
  induction rows generalizing out with
  | nil => intro r hr; cases hr
  | cons x xs ih =>
    obtain ⟨a, b, ha, hb, rfl⟩ := specifyAll_cons h
    intro r hr
    rcases List.mem_cons.mp hr with rfl | hr
    · obtain ⟨hne, hext⟩ := addSpecifiedData_optional F gs r c lo lim a hc ha
      obtain ⟨y, hy⟩ := List.exists_mem_of_ne_nil a hne
      exact ⟨y, List.mem_append_left _ hy, hext y hy⟩
    · obtain ⟨r', hr', he⟩ := ih b hb r hr
      exact ⟨r', List.mem_append_right _ hr', he⟩

/-- By the test that chose the strategy: existence test (three constants, no alias) or probe (no names), the table
    stays; one fetch joined with the whole table (no name shared); per-row join. -/
theorem processClause_inv {F : Facts} {gs : List QGraph} {tbl tbl' : Tbl} {c : Clause} {lo : QOpts} {n : Int} {u : Bool}
    (h : processClause F gs tbl c lo n = .ok (tbl', u)) :
    (∃ s p o, c.s = some s ∧ c.p = some p ∧ c.o = some o ∧ c.hasAlias = false ∧ tbl' = tbl ∧
      u = (!c.optional && !(inTimeBounds p (updateTimeBounds lo c) && ((preObj false o).map fun ko =>
        gs.any fun q => q.g.exist { ks := preNode s, pid := p.id, pnano := p.anchor.map (·.nanos), ko := ko }).getD false))) ∨
    (c.bindings = [] ∧ tbl' = tbl ∧ (c.optional = true ∧ u = false ∨ c.optional = false ∧
      ∃ rows, simpleFetch F gs { c with sAlias := existsAlias } lo 0 = .ok rows ∧
        u = rows.isEmpty)) ∨
    (c.bindings ≠ [] ∧ (c.bindings.filter tbl.hasBinding).isEmpty = true ∧ u = false ∧
      ∃ fetched, simpleFetch F gs c lo n = .ok fetched ∧
        (if !tbl.bindings.isEmpty then
          if c.optional then tbl.leftOptional c.bindings fetched else tbl.dot c.bindings fetched
        else tbl.append c.bindings fetched) = .ok tbl') ∨
    (c.bindings ≠ [] ∧ (c.bindings.filter tbl.hasBinding).isEmpty = false ∧ u = false ∧
      ∃ out, specifyAll F gs c lo n tbl.rows = .ok out ∧
        tbl' = if tbl.rows.isEmpty then { bindings := tbl.bindings, rows := out }
          else ({ bindings := tbl.bindings, rows := out } : Tbl).addBindings c.bindings) := by
  unfold processClause at h
  by_cases h1 : (c.specificity == 3 && !c.hasAlias) = true
  · rw [if_pos h1] at h
    rw [Bool.and_eq_true, beq_iff_eq, Bool.not_eq_true'] at h1
    obtain ⟨s, p, o, hs, hp, ho⟩ : ∃ s p o, c.s = some s ∧ c.p = some p ∧ c.o = some o := by
      have := h1.1
      unfold Clause.specificity at this
      cases hs : c.s <;> cases hp : c.p <;> cases ho : c.o <;> simp [hs, hp, ho] at this ⊢
    refine .inl ⟨s, p, o, hs, hp, ho, h1.2, ?_⟩
    simp only [hs, hp, ho] at h
    by_cases hopt : c.optional = true
    · rw [if_pos hopt] at h; cases h; exact ⟨rfl, by rw [hopt]; rfl⟩
    · rw [if_neg hopt] at h
      rw [Bool.eq_false_iff.mpr hopt, Bool.not_false, Bool.true_and]
      cases hin : inTimeBounds p (updateTimeBounds lo c) <;> rw [hin] at h <;> cases hko : preObj false o <;>
        rw [hko] at h <;> cases h <;> exact ⟨rfl, by simp⟩
  rw [if_neg h1] at h
  by_cases h2 : c.bindings.isEmpty = true
  · rw [if_pos h2] at h
    refine .inr (.inl ⟨List.isEmpty_iff.mp h2, ?_⟩)
    by_cases hopt : c.optional = true
    · rw [if_pos hopt] at h; cases h; exact ⟨rfl, .inl ⟨hopt, rfl⟩⟩
    · rw [if_neg hopt] at h
      obtain ⟨rows, hfe, h⟩ := bind_eq_ok.mp h
      cases h
      exact ⟨rfl, .inr ⟨Bool.eq_false_iff.mpr hopt, rows, hfe, rfl⟩⟩
  rw [if_neg h2] at h
  have hbne : c.bindings ≠ [] := fun hb => h2 (by rw [hb]; rfl)
  by_cases h3 : (c.bindings.filter tbl.hasBinding).isEmpty = true
  · rw [if_pos h3] at h
    obtain ⟨fetched, hfe, h⟩ := bind_eq_ok.mp h
    -- the table operation, whichever it is, gives the new table; the flag is `false`
    rw [ite_bind, ite_bind] at h
    obtain ⟨t, ht, e⟩ := bind_eq_ok.mp h
    cases e
    exact .inr (.inr (.inl ⟨hbne, h3, rfl, fetched, hfe, ht⟩))
  · rw [if_neg h3] at h
    obtain ⟨out, hsa, h⟩ := bind_eq_ok.mp h
    cases h
    exact .inr (.inr (.inr ⟨hbne, Bool.eq_false_iff.mpr h3, rfl, out, hsa, rfl⟩))

end BW.Proofs.Query
