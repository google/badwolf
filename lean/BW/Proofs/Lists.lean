/-
Facts about lists that core's `List` library does not state: `flatMap` against `Perm` and `Sublist`, when a `flatMap`
of singletons or a `filterMap` is empty, a list cut at the first element that fails a test, injectivity from `Nodup`
of a map, a list read at one index (after `set`, under `any`), a fold whose steps all keep an observation or all leave
the state where it is, the fold that keeps the first occurrence of every element, folds in `Except` that only ever
append, what a successful `>>=` or `mapM` in `Except` went through.
-/
namespace BW.Proofs.Lists

variable {α β γ : Type}

theorem flatMap_congr (l : List α) (f g : α → List β) (h : ∀ a ∈ l, f a = g a) : l.flatMap f = l.flatMap g := by
  rw [List.flatMap_def, List.flatMap_def, List.map_congr_left h]

theorem flatMap_perm_left (l : List α) (f g : α → List β) (h : ∀ a ∈ l, (f a).Perm (g a)) :
    (l.flatMap f).Perm (l.flatMap g) := by
  induction l with
  | nil => exact List.Perm.refl _
  | cons a l ih =>
    exact List.Perm.append (h a List.mem_cons_self) (ih fun x hx => h x (List.mem_cons_of_mem _ hx))

theorem flatMap_sublist (l₁ l₂ : List α) (f g : α → List β) (hl : l₁.Sublist l₂) (h : ∀ a, (f a).Sublist (g a)) :
    (l₁.flatMap f).Sublist (l₂.flatMap g) := by
  induction hl with
  | slnil => exact List.Sublist.refl _
  | cons a _ ih => exact ih.trans (List.sublist_append_right _ _)
  | cons_cons a _ ih => exact List.Sublist.append (h a) ih

theorem filter_flatMap_ite (l : List α) (p : α → Bool) (f : α → List β) :
    (l.filter p).flatMap f = l.flatMap fun a => if p a then f a else [] := by
  induction l with
  | nil => rfl
  | cons a l ih => cases hp : p a <;> simp [hp, ih]

theorem flatMap_if_isEmpty (l : List α) (p : α → Bool) (x : β) :
    (l.flatMap fun a => if p a = true then [x] else []).isEmpty = !l.any p := by
  induction l with
  | nil => rfl
  | cons a l ih =>
    rw [List.flatMap_cons, List.any_cons, Bool.not_or, ← ih]
    cases p a <;> rfl

theorem filterMap_isEmpty_congr {f : α → Option β} {g : α → Option γ} (l : List α)
    (h : ∀ a ∈ l, (∃ b, f a = some b) ↔ ∃ b, g a = some b) : (l.filterMap f).isEmpty = (l.filterMap g).isEmpty := by
  have key : ∀ {β γ : Type} {f : α → Option β} {g : α → Option γ}, (∀ a ∈ l, (∃ b, g a = some b) → ∃ b, f a = some b) →
      (∀ a ∈ l, f a = none) → ∀ a ∈ l, g a = none := by
    intro β γ f g h hf a ha
    cases hg : g a with
    | none => rfl
    | some b => obtain ⟨b', hb'⟩ := h a ha ⟨b, hg⟩; rw [hf a ha] at hb'; cases hb'
  rw [Bool.eq_iff_iff, List.isEmpty_iff, List.isEmpty_iff, List.filterMap_eq_nil_iff, List.filterMap_eq_nil_iff]
  exact ⟨key fun a ha => (h a ha).mpr, key fun a ha => (h a ha).mp⟩

theorem flatMap_append_perm (l : List α) (f g : α → List β) :
    (l.flatMap fun a => f a ++ g a).Perm (l.flatMap f ++ l.flatMap g) := by
  induction l with
  | nil => exact List.Perm.refl _
  | cons a l ih =>
    simp only [List.flatMap_cons, List.append_assoc]
    exact ((ih.append_left _).trans (List.perm_append_comm_assoc _ _ _)).append_left _

theorem flatMap_comm_perm (l₁ : List α) (l₂ : List β) (g : α → β → List γ) :
    (l₁.flatMap fun a => l₂.flatMap (g a)).Perm (l₂.flatMap fun b => l₁.flatMap fun a => g a b) := by
  induction l₁ with
  | nil => simp
  | cons a l₁ ih =>
    simp only [List.flatMap_cons]
    exact (ih.append_left _).trans (flatMap_append_perm l₂ (g a) _).symm

theorem exists_perm_map_eq {f : α → β} {l : List α} {l' : List β} (h : (l.map f).Perm l') :
    ∃ m, l.Perm m ∧ m.map f = l' := by
  induction l' generalizing l with
  | nil => exact ⟨[], by rw [List.map_eq_nil_iff.mp h.eq_nil], rfl⟩
  | cons b l' ih =>
    obtain ⟨a, ha, rfl⟩ := List.mem_map.mp (h.symm.subset List.mem_cons_self)
    obtain ⟨s, t, rfl⟩ := List.append_of_mem ha
    have h' : ((s ++ t).map f).Perm l' := by
      rw [List.map_append, List.map_cons] at h
      rw [List.map_append]
      exact (List.perm_middle.symm.trans h).cons_inv
    obtain ⟨m, hm, rfl⟩ := ih h'
    exact ⟨a :: m, List.perm_middle.trans (hm.cons a), rfl⟩

theorem flatMap_perm_of_map_perm {f : α → β} {F : α → List γ} {l l' : List α}
    (hF : ∀ a ∈ l, ∀ a' ∈ l', f a = f a' → F a = F a') (h : (l.map f).Perm (l'.map f)) :
    (l.flatMap F).Perm (l'.flatMap F) := by
  obtain ⟨m, hp, hm⟩ := exists_perm_map_eq h
  refine (hp.flatMap_right F).trans ?_
  have hF' : ∀ a ∈ m, ∀ a' ∈ l', f a = f a' → F a = F a' := fun a ha => hF a (hp.symm.subset ha)
  clear hp h hF
  induction m generalizing l' with
  | nil => cases l' with
    | nil => exact List.Perm.refl _
    | cons _ _ => cases hm
  | cons a m ih => cases l' with
    | nil => cases hm
    | cons b l' =>
      rw [List.map_cons, List.map_cons, List.cons.injEq] at hm
      rw [List.flatMap_cons, List.flatMap_cons, hF' a List.mem_cons_self b List.mem_cons_self hm.1]
      exact (ih hm.2 fun x hx y hy => hF' x (List.mem_cons_of_mem _ hx) y (List.mem_cons_of_mem _ hy)).append_left _

theorem takeWhile_stop {p : α → Bool} {l post : List α} (h : ∀ x ∈ l, p x = true)
    (hp : ∀ x ∈ post.head?, p x = false) : (l ++ post).takeWhile p = l ∧ (l ++ post).dropWhile p = post := by
  rw [List.takeWhile_append_of_pos h, List.dropWhile_append_of_pos h]
  cases post with
  | nil => simp
  | cons y ys => simp [hp y rfl]

theorem append_stop_inj [DecidableEq α] {s : α} {l₁ l₂ a b : List α} (h₁ : s ∉ l₁) (h₂ : s ∉ l₂)
    (h : l₁ ++ s :: a = l₂ ++ s :: b) : l₁ = l₂ ∧ a = b := by
  have cut {l t : List α} (hl : s ∉ l) : (l ++ s :: t).takeWhile (· != s) = l :=
    (takeWhile_stop (fun x hx => bne_iff_ne.mpr fun e : x = s => hl (e ▸ hx)) (by simp)).1
  have e : l₁ = l₂ := by rw [← cut h₁, h, cut h₂]
  exact ⟨e, List.tail_eq_of_cons_eq (List.append_cancel_left (e ▸ h))⟩

theorem inj_of_nodup_map {f : α → β} {l : List α} (hn : (l.map f).Nodup) {x y : α} (hx : x ∈ l) (hy : y ∈ l)
    (e : f x = f y) : x = y :=
  have h := List.pairwise_map.mp hn
  List.Pairwise.forall_of_forall_of_flip (R := fun a b => f a = f b → a = b) (fun _ _ _ => rfl)
    (h.imp fun hne e => absurd e hne) (h.imp fun hne e => absurd e.symm hne) hx hy e

theorem getElem?_set_cases {l : List α} {i j : Nat} {v x : α} (h : (l.set i v)[j]? = some x) :
    (j = i ∧ x = v) ∨ (j ≠ i ∧ l[j]? = some x) := by
  by_cases hj : i = j
  · subst hj
    rw [List.getElem?_set_self'] at h
    cases hl : l[i]? with
    | none => rw [hl] at h; cases h
    | some _ => rw [hl] at h; exact .inl ⟨rfl, (Option.some.inj h).symm⟩
  · rw [List.getElem?_set_ne hj] at h
    exact .inr ⟨Ne.symm hj, h⟩

theorem all_set_of_getElem? {p : α → Bool} {l : List α} {i : Nat} {t : α} (t' : α) (hi : l[i]? = some t)
    (ht : p t = true) : (l.set i t').all p = (p t' && l.all p) := by
  induction l generalizing i with
  | nil => cases hi
  | cons a l ih =>
    cases i with
    | zero => cases hi; simp [ht]
    | succ i => rw [List.set_cons_succ, List.all_cons, List.all_cons, ih hi, Bool.and_left_comm]

theorem any_false_get {p : α → Bool} {l : List α} (h : l.any p = false) {j : Nat} {x : α} (hj : l[j]? = some x) :
    p x = false :=
  Bool.eq_false_iff.mpr (List.any_eq_false.mp h x (List.mem_of_getElem? hj))

theorem foldl_keeps {σ : Type} (obs : σ → β) {step : σ → α → σ} (l : List α)
    (h : ∀ s, ∀ a ∈ l, obs (step s a) = obs s) (s : σ) : obs (l.foldl step s) = obs s :=
  List.foldlRecOn l step (motive := fun s' => obs s' = obs s) rfl fun s' hs a ha => (h s' a ha).trans hs

theorem foldl_fixed {σ : Type} {step : σ → α → σ} {s : σ} (l : List α) (h : ∀ a ∈ l, step s a = s) : l.foldl step s = s :=
  List.foldlRecOn l step (motive := (· = s)) rfl fun _ e a ha => e ▸ h a ha

/-! The fold that keeps the first occurrence of every element (`dedup`, the group ids of `gather`). -/

theorem foldl_keepFirst_eq_append [BEq α] (l acc : List α) :
    ∃ ys, l.foldl (fun acc b => if acc.contains b then acc else acc ++ [b]) acc = acc ++ ys ∧ ∀ y ∈ ys, y ∈ l :=
  List.foldlRecOn l _ (motive := fun s => ∃ ys, s = acc ++ ys ∧ ∀ y ∈ ys, y ∈ l) ⟨[], (List.append_nil _).symm, nofun⟩
    fun s ⟨ys, e, h⟩ b hb => by
      split
      · exact ⟨ys, e, h⟩
      · exact ⟨ys ++ [b], by rw [e, List.append_assoc], List.forall_mem_append.mpr ⟨h, by simpa using hb⟩⟩

theorem mem_foldl_keepFirst [BEq α] [LawfulBEq α] (l acc : List α) (x : α) :
    x ∈ l.foldl (fun acc i => if acc.contains i then acc else acc ++ [i]) acc ↔ x ∈ acc ∨ x ∈ l := by
  induction l generalizing acc with
  | nil => simp
  | cons b l ih =>
    rw [List.foldl_cons, ih, List.mem_cons]
    split
    · next hc =>
      exact ⟨.imp_right .inr, fun h => h.elim .inl fun h => h.elim (fun e => .inl (e ▸ List.contains_iff_mem.mp hc)) .inr⟩
    · rw [List.mem_append, List.mem_singleton, or_assoc]

theorem nodup_foldl_keepFirst [BEq α] [LawfulBEq α] (l acc : List α) (h : acc.Nodup) :
    (l.foldl (fun acc i => if acc.contains i then acc else acc ++ [i]) acc).Nodup :=
  List.foldlRecOn l _ h fun s hs b _ => by
    split
    · exact hs
    · next hc =>
      exact List.nodup_append.mpr ⟨hs, List.pairwise_singleton _ _, fun x hx y hy e =>
        hc (List.contains_iff_mem.mpr (List.mem_singleton.mp hy ▸ e ▸ hx))⟩

theorem foldlM_filterMap {ε : Type} (f : List β → α → Except ε (List β)) (g : α → Option β)
    (h : ∀ acc t, f acc t = .ok (match g t with | some r => acc ++ [r] | none => acc)) (ts : List α) (acc : List β) :
    ts.foldlM f acc = .ok (acc ++ ts.filterMap g) := by
  induction ts generalizing acc with
  | nil => simp [pure, Except.pure]
  | cons t ts ih =>
    simp only [List.foldlM_cons, List.filterMap_cons, h, bind, Except.bind]
    cases g t with
    | none => exact ih acc
    | some r => simp only [ih]; simp

theorem foldlM_flatMap {ε : Type} (f : List β → α → Except ε (List β)) (g : α → List β) (l : List α)
    (h : ∀ acc, ∀ a ∈ l, f acc a = .ok (acc ++ g a)) (acc : List β) :
    l.foldlM f acc = .ok (acc ++ l.flatMap g) := by
  induction l generalizing acc with
  | nil => simp [pure, Except.pure]
  | cons a l ih =>
    simp only [List.foldlM_cons, h acc a (List.mem_cons_self), bind, Except.bind, List.flatMap_cons]
    rw [ih (fun acc b hb => h acc b (List.mem_cons_of_mem _ hb))]
    simp

theorem bind_eq_ok {ε : Type} {x : Except ε α} {f : α → Except ε β} {b : β} :
    x >>= f = .ok b ↔ ∃ a, x = .ok a ∧ f a = .ok b := by
  cases x with
  | error e => exact ⟨nofun, fun ⟨_, h, _⟩ => nomatch h⟩
  | ok a => exact ⟨fun h => ⟨a, rfl, h⟩, fun ⟨_, h, h'⟩ => Except.ok.inj h ▸ h'⟩

theorem ite_bind {ε : Type} (p : Prop) [Decidable p] (x y : Except ε α) (f : α → Except ε β) :
    (if p then x >>= f else y >>= f) = (if p then x else y) >>= f := by
  split <;> rfl

theorem mapM_ok {ε : Type} {f : α → Except ε β} {l : List α} {l' : List β} (h : l.mapM f = .ok l') :
    l'.length = l.length ∧ ∀ b ∈ l', ∃ a ∈ l, f a = .ok b := by
  induction l generalizing l' with
  | nil => cases h; exact ⟨rfl, nofun⟩
  | cons a l ih =>
    rw [List.mapM_cons] at h
    obtain ⟨b, hb, bs, hbs, h⟩ := by simpa only [bind_eq_ok] using h
    cases h
    obtain ⟨hl, hm⟩ := ih hbs
    refine ⟨congrArg (· + 1) hl, fun x hx => ?_⟩
    rcases List.mem_cons.mp hx with rfl | hx
    · exact ⟨a, .head _, hb⟩
    · obtain ⟨a', ha', e⟩ := hm x hx
      exact ⟨a', .tail _ ha', e⟩

end BW.Proofs.Lists
