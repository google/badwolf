import BW.Model.Chan2

/-! Two locks (the store's, a graph's; C07): with one lock at a time nothing halts (`never_halts`). That a `DeleteGraph`
    waiting for the graph's lock while it holds the store's does halt is `C07.nested_locks_can_halt`, by evaluation. -/
namespace BW.Model.Chan2

def Inv (s : Sys) : Prop := s.c = .done → s.p = .done

theorem inv_step {s s' : Sys} {t : Tid} (h : Inv s) (hs : step s t = some s') : Inv s' ∧ s'.nested = s.nested := by
  revert hs
  fun_cases step s t <;> intro hs <;> cases hs
  case case1 hp => exact ⟨fun hc => (nomatch (h hc).symm.trans hp), rfl⟩  -- look-up locks
  case case2 => exact ⟨fun _ => rfl, rfl⟩  -- look-up closes
  case case3 | case9 => exact ⟨nofun, rfl⟩  -- hand-over; store used
  case case6 hp => exact ⟨fun _ => hp, rfl⟩  -- consumer sees the close
  case case11 | case13 | case14 => exact ⟨h, rfl⟩  -- `DeleteGraph`'s steps

attribute [local simp] step in
/-- Every control state but the nested `DeleteGraph` holding the store's lock is refuted by the thread that can move
    in it, against `hp`, `hc` or `hd`. -/
theorem stuck_cases {s : Sys} (h : Inv s) (hs : s.stuck = true) :
    s.finished = true ∨ (s.nested = true ∧ s.d = .holding) := by
  simp only [Sys.stuck, Bool.and_eq_true, Option.isNone_iff_eq_none] at hs
  obtain ⟨⟨hp, hc⟩, hd⟩ := hs
  rcases hdv : s.d with _ | _ | _
  · simp [hdv] at hd
  · cases hn : s.nested with
    | true => exact .inr ⟨rfl, rfl⟩
    | false => simp [hdv, hn] at hd
  · rcases hcv : s.c with _ | _ | _
    · rcases hpv : s.p with _ | k | _
      · simp [hpv] at hp
      · cases k <;> simp [hpv, hcv] at hp
      · simp [hpv, hcv] at hc
    · simp [hcv, hdv] at hc
    · exact .inl (by simp [Sys.finished, h hcv, hcv, hdv])

theorem never_halts {s : Sys} (h : Inv s) (hn : s.nested = false) (ts : List Tid) :
    (run s ts).finished = true ∨ (run s ts).stuck = false := by
  induction ts generalizing s with
  | nil =>
    rw [run]
    cases hs : s.stuck with
    | false => exact .inr rfl
    | true => exact (stuck_cases h hs).imp_right fun h' => nomatch h'.1.symm.trans hn
  | cons t ts ih =>
    rw [run]
    cases hs : step s t with
    | none => exact ih h hn
    | some s' => exact ih (inv_step h hs).1 ((inv_step h hs).2.trans hn)

end BW.Model.Chan2
