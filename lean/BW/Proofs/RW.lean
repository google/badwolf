/-
C07: calls under one readers-writer lock, in small steps, are linearizable — for every number of calls, every
batch size and every interleaving (`linearizable`).  The invariant: the calls that got the lock so far, executed
whole and one at a time in that order, give the results already returned, the results readers are assembling, and —
once the writer's pending micro-writes are applied — the protected state.  Which lock each method of memory.go takes,
for its whole body, is `lockfacts` (regenerated); that `sync.RWMutex` excludes as modelled is trusted.
-/
import BW.Proofs.Lists

namespace BW.Model.RW
open BW.Proofs.Lists (getElem?_set_cases any_false_get)

/-! An update holds the lock exclusively while it applies its micro-writes (the loop of `AddTriples` over the triples
of a batch and over the indexes); a look-up holds it shared while it makes its micro-reads (walking an index bucket,
sending on the channel). `σ` is the protected state, `ρ` what a micro-read observes. -/

inductive Op (σ ρ : Type) where
  | write (ws : List (σ → σ))
  | read (rs : List (σ → ρ))

inductive Th (σ ρ : Type) where
  | idle (op : Op σ ρ)                                  -- not invoked yet
  | waiting (op : Op σ ρ)                               -- invoked, wants the lock
  | writing (todo : List (σ → σ))                       -- holds the lock exclusively
  | reading (todo : List (σ → ρ)) (seen : List ρ)       -- holds it shared
  | done (result : List ρ)                              -- returned (an update returns nothing)

variable {σ ρ : Type}

structure Sys (σ ρ : Type) where
  st : σ
  ths : List (Th σ ρ)
  /-- ghost: the calls in the order in which they got the lock (index of the thread) -/
  order : List Nat := []

def holdsW : Th σ ρ → Bool
  | .writing _ => true
  | _ => false
def holdsR : Th σ ρ → Bool
  | .reading _ _ => true
  | _ => false

def Sys.writerIn (s : Sys σ ρ) : Bool := s.ths.any holdsW
def Sys.readerIn (s : Sys σ ρ) : Bool := s.ths.any holdsR

def Sys.step (s : Sys σ ρ) (i : Nat) : Option (Sys σ ρ) :=
  match s.ths[i]? with
  | none => none
  | some (.idle op) => some { s with ths := s.ths.set i (.waiting op) }
  | some (.waiting (.write ws)) =>
    if s.writerIn || s.readerIn then none
    else some { s with ths := s.ths.set i (.writing ws), order := s.order ++ [i] }
  | some (.waiting (.read rs)) =>
    if s.writerIn then none
    else some { s with ths := s.ths.set i (.reading rs []), order := s.order ++ [i] }
  | some (.writing []) => some { s with ths := s.ths.set i (.done []) }
  | some (.writing (w :: ws)) => some { s with st := w s.st, ths := s.ths.set i (.writing ws) }
  | some (.reading [] seen) => some { s with ths := s.ths.set i (.done seen) }
  | some (.reading (r :: rs) seen) => some { s with ths := s.ths.set i (.reading rs (seen ++ [r s.st])) }
  | some (.done _) => none

/-- Steps of threads that cannot move are skipped. -/
def Sys.run (s : Sys σ ρ) : List Nat → Sys σ ρ
  | [] => s
  | i :: is => match s.step i with
    | some s' => Sys.run s' is
    | none => Sys.run s is

/-- The sequential meaning of a call. -/
def Op.apply : Op σ ρ → σ → σ × List ρ
  | .write ws, x => (ws.foldl (fun x w => w x) x, [])
  | .read rs, x => (x, rs.map fun r => r x)

def seqStep (ops : List (Op σ ρ)) (acc : σ × List (Nat × List ρ)) (i : Nat) : σ × List (Nat × List ρ) :=
  match ops[i]? with
  | some o => ((o.apply acc.1).1, acc.2 ++ [(i, (o.apply acc.1).2)])
  | none => acc

/-- The calls one after the other, in a given order: final state and the result of each. -/
def seqRun (x0 : σ) (ops : List (Op σ ρ)) (order : List Nat) : σ × List (Nat × List ρ) :=
  order.foldl (seqStep ops) (x0, [])

theorem seqRun_append (x0 : σ) (ops : List (Op σ ρ)) (order : List Nat) (i : Nat) :
    seqRun x0 ops (order ++ [i]) = seqStep ops (seqRun x0 ops order) i := by
  unfold seqRun; rw [List.foldl_append]; rfl

def start (x0 : σ) (ops : List (Op σ ρ)) : Sys σ ρ := { st := x0, ths := ops.map Th.idle }

/-- Micro-writes the lock holder still has to make. -/
def pending : List (Th σ ρ) → List (σ → σ)
  | [] => []
  | .writing todo :: _ => todo
  | _ :: rest => pending rest

def Sys.abs (s : Sys σ ρ) : σ := (pending s.ths).foldl (fun x w => w x) s.st

structure Inv (x0 : σ) (ops : List (Op σ ρ)) (s : Sys σ ρ) : Prop where
  len : s.ths.length = ops.length
  idle : ∀ (i : Nat) o, s.ths[i]? = some (Th.idle o) → ops[i]? = some o ∧ i ∉ s.order
  waiting : ∀ (i : Nat) o, s.ths[i]? = some (Th.waiting o) → ops[i]? = some o ∧ i ∉ s.order
  writing : ∀ (i : Nat) (todo : List (σ → σ)), s.ths[i]? = some (Th.writing todo) → (∃ pre : List (σ → σ), ops[i]? = some (Op.write (pre ++ todo))) ∧
    (i, []) ∈ (seqRun x0 ops s.order).2 ∧
    (∀ (j : Nat) th, j ≠ i → s.ths[j]? = some th → holdsW th = false ∧ holdsR th = false)
  reading : ∀ (i : Nat) (todo : List (σ → ρ)) seen, s.ths[i]? = some (Th.reading todo seen) → ∃ pre : List (σ → ρ), ops[i]? = some (Op.read (pre ++ todo)) ∧
    seen = pre.map (fun r => r s.st) ∧ (i, (pre ++ todo).map fun r => r s.st) ∈ (seqRun x0 ops s.order).2
  done : ∀ (i : Nat) r, s.ths[i]? = some (Th.done r) → (i, r) ∈ (seqRun x0 ops s.order).2
  abs : (seqRun x0 ops s.order).1 = s.abs

theorem pending_cons {t : Th σ ρ} (h : holdsW t = false) (ts : List (Th σ ρ)) : pending (t :: ts) = pending ts := by
  cases t with
  | writing => cases h
  | _ => rfl

theorem pending_none {ths : List (Th σ ρ)} (h : ∀ (j : Nat) th, ths[j]? = some th → holdsW th = false) : pending ths = [] := by
  induction ths with
  | nil => rfl
  | cons t ts ih => rw [pending_cons (h 0 t rfl)]; exact ih fun j th hj => h (j + 1) th hj

theorem pending_alone {ths : List (Th σ ρ)} {i : Nat} {a : Th σ ρ} (hi : ths[i]? = some a)
    (hothers : ∀ (j : Nat) th, j ≠ i → ths[j]? = some th → holdsW th = false) : pending ths = pending [a] := by
  induction ths generalizing i with
  | nil => cases hi
  | cons t ts ih =>
    cases i with
    | zero =>
      cases hi
      have hts : pending ts = [] := pending_none fun j th hj => hothers (j + 1) th (Nat.succ_ne_zero j) hj
      cases a with
      | writing => rfl
      | _ => exact hts
    | succ i =>
      rw [pending_cons (hothers 0 t (Nat.succ_ne_zero i).symm rfl)]
      exact ih hi fun j th hj hth => hothers (j + 1) th (fun e => hj (Nat.succ.inj e)) hth

theorem pending_set_alone {ths : List (Th σ ρ)} {i : Nat} {a : Th σ ρ} (v : Th σ ρ) (hi : ths[i]? = some a)
    (hothers : ∀ (j : Nat) th, j ≠ i → ths[j]? = some th → holdsW th = false) : pending (ths.set i v) = pending [v] :=
  pending_alone (List.getElem?_set_self (List.getElem?_eq_some_iff.mp hi).1) fun j th hj hth =>
    hothers j th hj (List.getElem?_set_ne (Ne.symm hj) ▸ hth)

theorem pending_set_nonwriter {ths : List (Th σ ρ)} {i : Nat} {a v : Th σ ρ} (hi : ths[i]? = some a)
    (ha : holdsW a = false) (hv : holdsW v = false) : pending (ths.set i v) = pending ths := by
  induction ths generalizing i with
  | nil => rfl
  | cons t ts ih =>
    cases i with
    | zero => cases hi; rw [List.set_cons_zero, pending_cons hv, pending_cons ha]
    | succ i =>
      rw [List.set_cons_succ]
      cases ht : holdsW t with
      | false => rw [pending_cons ht, pending_cons ht]; exact ih hi
      | true =>
        cases t with
        | writing => rfl
        | _ => cases ht

theorem mem_seqStep (ops : List (Op σ ρ)) (acc : σ × List (Nat × List ρ)) (i : Nat) (x : Nat × List ρ) (h : x ∈ acc.2) :
    x ∈ (seqStep ops acc i).2 := by
  unfold seqStep
  cases ops[i]? with
  | none => exact h
  | some o => exact List.mem_append_left _ h

section
variable {x0 : σ} {ops : List (Op σ ρ)} {s : Sys σ ρ}

theorem mem_seqRun_append {order : List Nat} (i : Nat) {x : Nat × List ρ}
    (h : x ∈ (seqRun x0 ops order).2) : x ∈ (seqRun x0 ops (order ++ [i])).2 :=
  seqRun_append x0 ops order i ▸ mem_seqStep ops _ i x h

theorem seqRun_acquire {order : List Nat} {i : Nat} {o : Op σ ρ} (ho : ops[i]? = some o) :
    seqRun x0 ops (order ++ [i]) =
      ((o.apply (seqRun x0 ops order).1).1, (seqRun x0 ops order).2 ++ [(i, (o.apply (seqRun x0 ops order).1).2)]) := by
  rw [seqRun_append]; unfold seqStep; rw [ho]

/-- `Inv` for thread `i`, mutual exclusion apart: it is in `order` from the moment it gets the lock, and from then on
    the sequential run holds the result it is assembling. -/
def Good (x0 : σ) (ops : List (Op σ ρ)) (order : List Nat) (st : σ) (i : Nat) : Th σ ρ → Prop
  | .idle o | .waiting o => ops[i]? = some o ∧ i ∉ order
  | .writing todo => (∃ pre : List (σ → σ), ops[i]? = some (Op.write (pre ++ todo))) ∧ (i, []) ∈ (seqRun x0 ops order).2
  | .reading todo seen => ∃ pre : List (σ → ρ), ops[i]? = some (Op.read (pre ++ todo)) ∧
      seen = pre.map (fun r => r st) ∧ (i, (pre ++ todo).map fun r => r st) ∈ (seqRun x0 ops order).2
  | .done r => (i, r) ∈ (seqRun x0 ops order).2

/-- A writer holds the lock alone. -/
def Excl (ths : List (Th σ ρ)) : Prop :=
  ∀ (i : Nat) todo, ths[i]? = some (Th.writing todo) →
    ∀ (j : Nat) th, j ≠ i → ths[j]? = some th → holdsW th = false ∧ holdsR th = false

theorem inv_iff : Inv x0 ops s ↔
    s.ths.length = ops.length ∧ (∀ (i : Nat) th, s.ths[i]? = some th → Good x0 ops s.order s.st i th) ∧ Excl s.ths ∧
      (seqRun x0 ops s.order).1 = s.abs := by
  constructor
  · intro h
    refine ⟨h.len, fun i th hi => ?_, fun i todo hi => (h.writing i todo hi).2.2, h.abs⟩
    cases th with
    | idle o => exact h.idle i o hi
    | waiting o => exact h.waiting i o hi
    | writing todo => exact ⟨(h.writing i todo hi).1, (h.writing i todo hi).2.1⟩
    | reading todo seen => exact h.reading i todo seen hi
    | done r => exact h.done i r hi
  · rintro ⟨hlen, hgood, hexcl, habs⟩
    exact ⟨hlen, fun i _ hi => hgood i _ hi, fun i _ hi => hgood i _ hi,
      fun i todo hi => ⟨(hgood i _ hi).1, (hgood i _ hi).2, hexcl i todo hi⟩,
      fun i _ _ hi => hgood i _ hi, fun i _ hi => hgood i _ hi, habs⟩

/-- Thread `i` moves to `v`: it is enough to look at `v`, and at what the new state and order mean for the others. -/
theorem Inv.update (h : Inv x0 ops s) (i : Nat) (v : Th σ ρ) (st' : σ)
    (order' : List Nat) (hv : Good x0 ops order' st' i v)
    (hothers : ∀ (j : Nat) th, j ≠ i → s.ths[j]? = some th → Good x0 ops s.order s.st j th → Good x0 ops order' st' j th)
    (hexcl : Excl (s.ths.set i v))
    (habs : (seqRun x0 ops order').1 = Sys.abs ⟨st', s.ths.set i v, order'⟩) :
    Inv x0 ops ⟨st', s.ths.set i v, order'⟩ := by
  obtain ⟨hlen, hgood, -, -⟩ := inv_iff.mp h
  refine inv_iff.mpr ⟨List.length_set.trans hlen, fun j th hj => ?_, hexcl, habs⟩
  rcases getElem?_set_cases hj with ⟨rfl, rfl⟩ | ⟨hne, hj'⟩
  · exact hv
  · exact hothers j th hne hj' (hgood j th hj')

theorem Good.acquire {order : List Nat} {st : σ} {i j : Nat} {th : Th σ ρ} (hne : j ≠ i)
    (h : Good x0 ops order st j th) : Good x0 ops (order ++ [i]) st j th := by
  cases th with
  | idle o | waiting o => exact ⟨h.1, List.not_mem_append h.2 fun hm => hne (List.mem_singleton.mp hm)⟩
  | writing todo => exact ⟨h.1, mem_seqRun_append i h.2⟩
  | reading todo seen => obtain ⟨pre, h1, h2, h3⟩ := h; exact ⟨pre, h1, h2, mem_seqRun_append i h3⟩
  | done r => exact mem_seqRun_append i h

/-- Only a reader looks at the protected state. -/
theorem Good.write {order : List Nat} {st : σ} {j : Nat} {th : Th σ ρ} (st' : σ)
    (hr : holdsR th = false) (h : Good x0 ops order st j th) : Good x0 ops order st' j th := by
  cases th with
  | reading => cases hr
  | _ => exact h

/-- The moving thread holds no more than it held. -/
theorem Excl.set {ths : List (Th σ ρ)} (h : Excl ths) {i : Nat} {a v : Th σ ρ} (hi : ths[i]? = some a)
    (hW : holdsW v = true → holdsW a = true) (hR : holdsR v = true → holdsR a = true) : Excl (ths.set i v) := by
  intro k todo hk j th hjk hj
  rcases getElem?_set_cases hk with ⟨rfl, rfl⟩ | ⟨hki, hk'⟩
  · rw [List.getElem?_set_ne (Ne.symm hjk)] at hj
    cases a with
    | writing todo' => exact h k todo' hi j th hjk hj
    | _ => cases hW rfl
  · rcases getElem?_set_cases hj with ⟨rfl, rfl⟩ | ⟨_, hj'⟩
    · have := h k todo hk' j a hjk hi
      refine ⟨Bool.eq_false_iff.mpr fun hv => ?_, Bool.eq_false_iff.mpr fun hv => ?_⟩
      · rw [hW hv] at this; cases this.1
      · rw [hR hv] at this; cases this.2
    · exact h k todo hk' j th hjk hj'

theorem Excl.acquire {ths : List (Th σ ρ)} {i : Nat} {v : Th σ ρ} (hw : ths.any holdsW = false)
    (hr : holdsW v = true → ths.any holdsR = false) : Excl (ths.set i v) := by
  intro k todo hk j th hjk hj
  rcases getElem?_set_cases hk with ⟨rfl, rfl⟩ | ⟨_, hk'⟩
  · rw [List.getElem?_set_ne (Ne.symm hjk)] at hj
    exact ⟨any_false_get hw hj, any_false_get (hr rfl) hj⟩
  · cases any_false_get hw hk'

/-- Thread `i` moves on its own: state and order stay, it holds no more than it held, and what it has still to write
    stays. -/
theorem Inv.local (h : Inv x0 ops s) {i : Nat} {a v : Th σ ρ}
    (hi : s.ths[i]? = some a) (hv : Good x0 ops s.order s.st i v) (hW : holdsW v = true → holdsW a = true)
    (hR : holdsR v = true → holdsR a = true) (hp : pending [v] = pending [a]) :
    Inv x0 ops ⟨s.st, s.ths.set i v, s.order⟩ := by
  obtain ⟨-, -, hexcl, habs⟩ := inv_iff.mp h
  refine h.update i v _ _ hv (fun _ _ _ _ h => h) (hexcl.set hi hW hR) (habs.trans (congrArg (List.foldl _ s.st) ?_))
  cases ha : holdsW a with
  | false => exact (pending_set_nonwriter hi ha (Bool.eq_false_iff.mpr fun hv => nomatch ha.symm.trans (hW hv))).symm
  | true =>
    cases a with
    | writing todo =>
      have hothers := fun (j : Nat) th hj hth => (hexcl i _ hi j th hj hth).1
      rw [pending_alone hi hothers, pending_set_alone v hi hothers, hp]
    | _ => cases ha

/-- Thread `i` gets the lock for its call `o` while nobody writes (and, if it is to write, nobody reads): `o` is executed
    whole on the protected state, which is that of the sequential run. -/
theorem Inv.acquire (h : Inv x0 ops s) {i : Nat} {o : Op σ ρ} (hi : s.ths[i]? = some (.waiting o)) (hw : s.writerIn = false)
    (v : Th σ ρ) (hr : holdsW v = true → s.readerIn = false)
    (hv : (i, (o.apply s.st).2) ∈ (seqRun x0 ops (s.order ++ [i])).2 → Good x0 ops (s.order ++ [i]) s.st i v)
    (hp : (o.apply s.st).1 = (pending [v]).foldl (fun x w => w x) s.st) :
    Inv x0 ops ⟨s.st, s.ths.set i v, s.order ++ [i]⟩ := by
  have hnone := fun (j : Nat) th (hj : s.ths[j]? = some th) => any_false_get hw hj
  have hseq := seqRun_acquire (x0 := x0) (order := s.order) (h.waiting i o hi).1
  rw [show (seqRun x0 ops s.order).1 = s.st by rw [h.abs, Sys.abs, pending_none hnone]; rfl] at hseq
  refine h.update i v _ _ (hv ?_) (fun j th hj _ hg => hg.acquire hj) (Excl.acquire hw hr) ?_
  · rw [hseq]; exact List.mem_append_right _ (List.mem_singleton.mpr rfl)
  · rw [hseq]
    exact hp.trans (congrArg (List.foldl _ s.st) (pending_set_alone v hi fun j th _ => hnone j th).symm)

theorem inv_start (x0 : σ) (ops : List (Op σ ρ)) : Inv x0 ops (start x0 ops) := by
  have hget : ∀ (i : Nat) (th : Th σ ρ), (start x0 ops).ths[i]? = some th → ∃ o : Op σ ρ, ops[i]? = some o ∧ th = Th.idle o := by
    intro i th h
    simp only [start, List.getElem?_map, Option.map_eq_some_iff] at h
    obtain ⟨o, ho, e⟩ := h
    exact ⟨o, ho, e.symm⟩
  refine inv_iff.mpr ⟨List.length_map _, fun i th hi => ?_, fun i todo hi => ?_, ?_⟩
  · obtain ⟨o, ho, rfl⟩ := hget i th hi
    exact ⟨ho, List.not_mem_nil⟩
  · obtain ⟨o, _, e⟩ := hget i _ hi; cases e
  · show x0 = List.foldl _ x0 (pending _)
    rw [pending_none fun j th hj => ?_]
    · rfl
    · obtain ⟨o, _, rfl⟩ := hget j th hj
      rfl

theorem inv_step {s' : Sys σ ρ} (hinv : Inv x0 ops s) (i : Nat)
    (h : s.step i = some s') : Inv x0 ops s' := by
  revert h
  fun_cases Sys.step s i <;> intro h <;> cases h
  case case2 o hi =>  -- invoked
    exact hinv.local hi (hinv.idle i o hi) nofun nofun rfl
  case case4 ws hi hfree =>  -- writer locks
    simp only [Bool.or_eq_true, not_or, Bool.not_eq_true] at hfree
    exact hinv.acquire hi hfree.1 (.writing ws) (fun _ => hfree.2) (fun h => ⟨⟨[], (hinv.waiting i _ hi).1⟩, h⟩) rfl
  case case6 rs hi hw =>  -- reader locks
    exact hinv.acquire hi (Bool.not_eq_true _ ▸ hw) (.reading rs []) nofun (fun h => ⟨[], (hinv.waiting i _ hi).1, rfl, h⟩) rfl
  case case7 hi =>  -- writer returns
    exact hinv.local hi (hinv.writing i _ hi).2.1 nofun nofun rfl
  case case8 w ws hi =>  -- micro-write: nobody else holds the lock, so nobody looks at the state
    obtain ⟨-, -, hexcl, habs⟩ := inv_iff.mp hinv
    obtain ⟨⟨pre, hop⟩, hres, -⟩ := hinv.writing i _ hi
    have hothers := fun (j : Nat) th hj hth => (hexcl i _ hi j th hj hth).1
    refine hinv.update i _ _ _ ⟨⟨pre ++ [w], List.append_cons pre w ws ▸ hop⟩, hres⟩
      (fun j th hj hth hg => hg.write _ (hexcl i _ hi j th hj hth).2) (hexcl.set hi (fun _ => rfl) nofun) (habs.trans ?_)
    show List.foldl _ s.st (pending _) = List.foldl _ (w s.st) (pending _)
    rw [pending_alone hi hothers, pending_set_alone (.writing ws) hi hothers]; rfl
  case case9 seen hi =>  -- reader returns
    obtain ⟨pre, hop, hseen, hres⟩ := hinv.reading i _ _ hi
    have hres' : (i, seen) ∈ (seqRun x0 ops s.order).2 := by rw [hseen, ← List.append_nil pre]; exact hres
    exact hinv.local hi hres' nofun nofun rfl
  case case10 r rs seen hi =>  -- micro-read
    obtain ⟨pre, hop, hseen, hres⟩ := hinv.reading i _ _ hi
    exact hinv.local hi ⟨pre ++ [r], List.append_cons pre r rs ▸ hop, by rw [hseen, List.map_append]; rfl, List.append_cons pre r rs ▸ hres⟩
      nofun (fun _ => rfl) rfl

theorem run_induction {P : Sys σ ρ → Prop} (hstep : ∀ {s s' : Sys σ ρ} {i : Nat}, P s → s.step i = some s' → P s')
    (sched : List Nat) : ∀ {s : Sys σ ρ}, P s → P (s.run sched) := by
  induction sched with
  | nil => exact id
  | cons i is ih =>
    intro s h
    rw [Sys.run]
    cases hs : s.step i with
    | none => exact ih h
    | some s' => exact ih (hstep h hs)

theorem inv_run (sched : List Nat) (h : Inv x0 ops s) : Inv x0 ops (s.run sched) :=
  run_induction (fun h hs => inv_step h _ hs) sched h

theorem order_grows (sched : List Nat) (s : Sys σ ρ) : s.order <+: (s.run sched).order := by
  refine run_induction (P := fun t => s.order <+: t.order) (fun {t t' i} h hs => h.trans ?_) sched List.prefix_rfl
  revert hs
  fun_cases Sys.step t i <;> intro hs <;> cases hs
  case case4 | case6 => exact List.prefix_append _ _  -- the lock is taken
  all_goals exact List.prefix_rfl

theorem mem_order_of_mem_seqRun {order : List Nat} {x : Nat × List ρ}
    (h : x ∈ (seqRun x0 ops order).2) : x.1 ∈ order := by
  revert h
  -- kept by every step of the fold: whatever has a result is in `order`
  refine List.foldlRecOn order (seqStep ops) (motive := fun acc => x ∈ acc.2 → x.1 ∈ order) (b := (x0, []))
    (fun h => absurd h List.not_mem_nil) fun acc ih a ha hx => ?_
  unfold seqStep at hx
  cases ho : ops[a]? with
  | none => rw [ho] at hx; exact ih hx
  | some o =>
    rw [ho] at hx
    rcases List.mem_append.mp hx with hx | hx
    · exact ih hx
    · exact List.mem_singleton.mp hx ▸ ha

end

/-- `C07.rw_linearizable`. That the order respects real time is `C07.rw_real_time`, from `order_grows` and
    `mem_order_of_mem_seqRun`. -/
theorem linearizable (x0 : σ) (ops : List (Op σ ρ)) (sched : List Nat) :
    let s := (start x0 ops).run sched
    (∀ (i : Nat) r, s.ths[i]? = some (.done r) → (i, r) ∈ (seqRun x0 ops s.order).2) ∧
    (seqRun x0 ops s.order).1 = s.abs :=
  let h := inv_run sched (inv_start x0 ops)
  ⟨h.done, h.abs⟩

end BW.Model.RW
