/-
The facts about the regenerated BQL grammar table that C08, C17 and C18 all need — `allSyms` lists every symbol, no rule
mentions EOF — by a case split over `Sym` and by kernel evaluation of a Boolean sweep over `allSyms`; nothing about the
table is assumed. `bql_alts_wf`, which C17 and C18 need and C08 does not, is evaluated in each of the two: a table that
fails it leaves C08 standing.
-/
import BW.Proofs.Parser
import BW.Generated.Grammar

namespace BW.Proofs.GrammarFacts
open BW.Model BW.Generated BW.Proofs.Parser

/-- So "for all rules" is "for all `s ∈ allSyms`". -/
theorem allSyms_complete (s : Sym) : s ∈ allSyms := by
  cases s <;> decide +kernel

theorem bql_no_eof_b : noEofB bql allSyms = true := by decide +kernel

theorem bql_no_eof : NoEofG bql := noEofG_of_noEofB bql_no_eof_b allSyms_complete

end BW.Proofs.GrammarFacts
