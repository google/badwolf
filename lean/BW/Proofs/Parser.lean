/-
The predictive parser machine of `BW.Model.Grammar`: it is sound and complete for "greedy" derivations,
its verdict does not depend on the fuel once that suffices, and in a well-formed rule one token chooses
the alternative (C18; `Termination`, for C08, goes through the same case analysis of `run`).
-/
import BW.Model.Grammar

set_option linter.unusedSectionVars false

namespace BW.Proofs.Parser
open BW.Model

variable {K S : Type} [DecidableEq K]

inductive Derives (g : Grammar K S) : List (El K S) → List K → Prop
  | nil : Derives g [] []
  | tok (a : K) (es : List (El K S)) (ts : List K) : Derives g es ts → Derives g (El.t a :: es) (a :: ts)
  | sym (x : S) (alt es : List (El K S)) (ts₁ ts₂ : List K) :
      alt ∈ g.rules x → Derives g alt ts₁ → Derives g es ts₂ → Derives g (El.s x :: es) (ts₁ ++ ts₂)

/-- Greedy derivation of a prefix of `ts`, leaving `rest`: at every rule the alternative is the one
    `consume` selects from the next token — the first one starting with it, an empty alternative only
    when it is reached first ("each optional part is present whenever its first token is next"). -/
inductive GDerives (g : Grammar K S) : List (El K S) → List K → List K → Prop
  | nil (ts : List K) : GDerives g [] ts ts
  | tok (a : K) (es : List (El K S)) (ts rest : List K) :
      GDerives g es ts rest → GDerives g (El.t a :: es) (a :: ts) rest
  | symEmpty (x : S) (i : Nat) (es : List (El K S)) (ts rest : List K) :
      selectAlt (peekK g id ts) (g.rules x) 0 = some (i, []) →
      GDerives g es ts rest → GDerives g (El.s x :: es) ts rest
  | symTok (x : S) (i : Nat) (a : K) (r es : List (El K S)) (ts mid rest : List K) :
      selectAlt a (g.rules x) 0 = some (i, El.t a :: r) →
      GDerives g r ts mid → GDerives g es mid rest → GDerives g (El.s x :: es) (a :: ts) rest

theorem selectAlt_some {k : K} {alts : List (List (El K S))} {i j : Nat} {alt : List (El K S)}
    (h : selectAlt k alts i = some (j, alt)) : alt ∈ alts ∧ ∀ e r, alt = e :: r → e = El.t k := by
  fun_induction selectAlt k alts i <;> grind

theorem gderives_append {g : Grammar K S} (a b : List (El K S)) (ts rest : List K)
    (h : GDerives g (a ++ b) ts rest) : ∃ mid, GDerives g a ts mid ∧ GDerives g b mid rest := by
  induction a generalizing ts with
  | nil => exact ⟨ts, .nil ts, h⟩
  | cons e a ih =>
    cases h with
    | tok k es ts' rest h' =>
      obtain ⟨mid, h1, h2⟩ := ih _ h'
      exact ⟨mid, .tok _ _ _ _ h1, h2⟩
    | symEmpty x i es ts rest hs h2 =>
      obtain ⟨mid, h3, h4⟩ := ih _ h2
      exact ⟨mid, .symEmpty x i a ts mid hs h3, h4⟩
    | symTok x i k r es ts m rest hs h1 h2 =>
      obtain ⟨mid, h3, h4⟩ := ih _ h2
      exact ⟨mid, .symTok x i k r a ts m mid hs h1 h3, h4⟩

theorem gderives_append' {g : Grammar K S} (a b : List (El K S)) (ts mid rest : List K)
    (h1 : GDerives g a ts mid) (h2 : GDerives g b mid rest) : GDerives g (a ++ b) ts rest := by
  induction h1 with
  | nil ts => exact h2
  | tok k es ts r h ih => exact .tok _ _ _ _ (ih h2)
  | symEmpty x i es ts r hs h4 ih4 => exact .symEmpty x i _ ts _ hs (ih4 h2)
  | symTok x i k r es ts m rr hs h3 h4 ih3 ih4 => exact .symTok x i k r _ ts m _ hs h3 (ih4 h2)

theorem gderives_derives {g : Grammar K S} (es : List (El K S)) (ts rest : List K) (h : GDerives g es ts rest) :
    ∃ pre, ts = pre ++ rest ∧ Derives g es pre := by
  induction h with
  | nil ts => exact ⟨[], rfl, .nil⟩
  | tok a es ts rest h ih =>
    obtain ⟨pre, rfl, hd⟩ := ih
    exact ⟨a :: pre, rfl, .tok _ _ _ hd⟩
  | symEmpty x i es ts rest hs h2 ih2 =>
    obtain ⟨p2, hp2, hd2⟩ := ih2
    exact ⟨p2, hp2, .sym x [] es [] p2 (selectAlt_some hs).1 .nil hd2⟩
  | symTok x i a r es ts mid rest hs h1 h2 ih1 ih2 =>
    obtain ⟨p1, rfl, hd1⟩ := ih1
    obtain ⟨p2, rfl, hd2⟩ := ih2
    exact ⟨a :: p1 ++ p2, by simp, .sym x _ es (a :: p1) p2 (selectAlt_some hs).1 (.tok _ _ _ hd1) hd2⟩

/-- The grammar elements still to be matched by a work stack. -/
def els (st : List (Item K S)) : List (El K S) :=
  st.filterMap fun
    | .el e _ => some e
    | _ => none

theorem els_append (a b : List (Item K S)) : els (a ++ b) = els a ++ els b := List.filterMap_append

theorem els_map_el (l : List (El K S)) (o : Option (S × Nat)) : els (l.map fun e => Item.el e o) = l :=
  List.filterMap_map.trans List.filterMap_some

def NoEofEls (g : Grammar K S) (l : List (El K S)) : Prop := ∀ e ∈ l, e ≠ El.t g.eof
def NoEofG (g : Grammar K S) : Prop := ∀ x, ∀ alt ∈ g.rules x, NoEofEls g alt

theorem noEofG_of_noEofB {g : Grammar K S} {syms : List S} (h : noEofB g syms = true) (hall : ∀ s, s ∈ syms) :
    NoEofG g := by
  intro x alt halt e he heq
  subst heq
  simpa using List.all_eq_true.mp (List.all_eq_true.mp (List.all_eq_true.mp h x (hall x)) alt halt) _ he

/-- Without the end-of-input token in the rules a non-empty alternative is selected only on a real token. -/
theorem selectAlt_cons {g : Grammar K S} (hg : NoEofG g) {x : S} {ts : List K} {i : Nat} {e : El K S}
    {r : List (El K S)} (h : selectAlt (peekK g id ts) (g.rules x) 0 = some (i, e :: r)) :
    e :: r ∈ g.rules x ∧ ∃ t ts', ts = t :: ts' ∧ e = El.t t := by
  obtain ⟨hm, he⟩ := selectAlt_some h
  cases ts with
  | nil => exact absurd (he e r rfl) (hg x _ hm e (.head _))
  | cons t ts' => exact ⟨hm, t, ts', rfl, he e r rfl⟩

theorem run_sound (g : Grammar K S) (hg : NoEofG g) (f : Nat) (stack : List (Item K S)) (ts : List K)
    (evs : List (Ev K S K)) (rest : List K) (evs' : List (Ev K S K)) (hst : NoEofEls g (els stack))
    (h : run g id g.eof f stack ts evs = .accept rest evs') : GDerives g (els stack) ts rest := by
  -- `caseN`: the branches of `run` as written. 1 no fuel; 2 empty stack (accept); 3 `fin`; 4 `symDone`; 5, 6 a token
  -- matches; 7 it does not; 8 a symbol, no alternative; 9 the empty one; 10 a non-empty one
  fun_induction run g id g.eof f stack ts evs
  case case2 => cases h; exact .nil _
  case case3 ih | case4 ih => exact ih hst h
  case case5 st ts _ _ _ _ ih | case6 st ts _ ih =>
    cases ts with
    | nil => exact absurd rfl (hst _ (.head _))
    | cons t ts' => exact .tok _ _ _ _ (ih (fun e he => hst e (.tail _ he)) h)
  case case9 i hsel ih => exact .symEmpty _ i _ _ _ hsel (ih (fun e he => hst e (.tail _ he)) h)
  case case10 x o st ts _ i e r hsel _ ih =>
    obtain ⟨hm, t, ts', rfl, rfl⟩ := selectAlt_cons hg hsel
    have hr : NoEofEls g (r ++ els st) := fun e he => (List.mem_append.mp he).elim
      (fun he => hg x _ hm e (.tail _ he)) (fun he => hst e (.tail _ he))
    rw [els_append, els_map_el] at ih
    obtain ⟨mid, h1, h2⟩ := gderives_append _ _ _ _ (ih hr h)
    exact .symTok x i t r _ ts' mid rest hsel h1 h2
  all_goals cases h

theorem parse_sound {g : Grammar K S} (hg : NoEofG g) {f : Nat} {ts rest : List K} {evs : List (Ev K S K)}
    (h : parseKinds g f ts = .accept rest evs) : GDerives g [El.s g.start] ts rest :=
  run_sound g hg f _ ts [] rest evs (by simp [NoEofEls, els]) h

/-- Running the items that spell `es` along a greedy derivation takes `n` steps and leaves the rest of the stack
    untouched. -/
theorem run_follows (g : Grammar K S) (es : List (El K S)) (ts mid : List K) (h : GDerives g es ts mid) :
    ∀ (o : Option (S × Nat)) (st : List (Item K S)) (evs : List (Ev K S K)),
      ∃ n evs', ∀ f, run g id g.eof (f + n) (es.map (Item.el · o) ++ st) ts evs = run g id g.eof f st mid evs' := by
  induction h with
  | nil ts => exact fun o st evs => ⟨0, evs, fun f => rfl⟩
  | tok a es ts rest h ih =>
    intro o st evs
    obtain ⟨n, evs', h'⟩ := ih o st (match o with | some p => .elemTok p.1 p.2 a :: evs | none => evs)
    exact ⟨n + 1, evs', fun f => by cases o <;> simpa [run, peekK] using h' f⟩
  | symEmpty x i es ts rest hs h ih =>
    intro o st evs
    obtain ⟨n, evs', h'⟩ := ih o st (.elemSym o x :: .empty x i :: evs)
    exact ⟨n + 1, evs', fun f => by simpa [run, hs] using h' f⟩
  | symTok x i a r es ts mid rest hs h1 h2 ih1 ih2 =>
    intro o st evs
    obtain ⟨n1, evs1, h1'⟩ := ih1 (some (x, i)) (.fin x i :: .symDone o x :: (es.map (Item.el · o) ++ st))
      (.elemTok x i a :: .start x i :: evs)
    obtain ⟨n2, evs2, h2'⟩ := ih2 o st (.elemSym o x :: .fin x i :: evs1)
    refine ⟨n2 + 2 + n1 + 1, evs2, fun f => ?_⟩
    have := h1' (f + n2 + 2)
    simp only [run, h2'] at this
    simpa [run, peekK, hs, ← Nat.add_assoc] using this

theorem parse_complete (g : Grammar K S) (ts rest : List K) (h : GDerives g [El.s g.start] ts rest) :
    ∃ n, ∀ f, n ≤ f → ∃ evs, parseKinds g f ts = .accept rest evs := by
  obtain ⟨n, evs', hn⟩ := run_follows g _ ts rest h none [] []
  refine ⟨n + 1, fun f hf => ⟨evs'.reverse, ?_⟩⟩
  obtain ⟨k, rfl⟩ : ∃ k, f = k + 1 + n := ⟨f - n - 1, by omega⟩
  exact (hn (k + 1)).trans rfl

theorem accepts_iff_gderives {g : Grammar K S} (hg : NoEofG g) (ts : List K) :
    (∃ n, ∀ f, n ≤ f → acceptsStatement g true f ts = true) ↔ GDerives g [El.s g.start] ts [] := by
  constructor
  · rintro ⟨n, h⟩
    have := h n (Nat.le_refl n)
    unfold acceptsStatement at this
    split at this
    · rename_i rest evs heq
      simp only [Bool.not_true, Bool.false_or, List.isEmpty_iff] at this
      exact this ▸ parse_sound hg heq
    · cases this
  · intro h
    obtain ⟨n, hn⟩ := parse_complete g ts [] h
    refine ⟨n, fun f hf => ?_⟩
    obtain ⟨evs, he⟩ := hn f hf
    simp [acceptsStatement, he]

theorem run_mono (g : Grammar K S) (f n : Nat) (stack : List (Item K S)) (ts : List K) (evs : List (Ev K S K))
    (h : run g id g.eof f stack ts evs ≠ .nofuel) :
    run g id g.eof (f + n) stack ts evs = run g id g.eof f stack ts evs := by
  fun_induction run g id g.eof f stack ts evs
  case case1 => exact absurd rfl h
  -- with `f + 1 + n` written as `(f + n) + 1` both sides take the same branch: that closes 2, 7, 8, where `run` stops
  all_goals simp only [Nat.succ_add, run, ↓reduceIte, *]
  all_goals rename_i ih; exact ih h

theorem mem_firstToks {k : K} {r : List (El K S)} {alts : List (List (El K S))} (h : (El.t k :: r) ∈ alts) :
    k ∈ firstToks alts := by
  fun_induction firstToks alts <;> grind

theorem altsWF_cons {a : K} {rest : List (El K S)} {alts : List (List (El K S))}
    (h : altsWF ((El.t a :: rest) :: alts) = true) : a ∉ firstToks alts ∧ altsWF alts = true := by
  simp only [altsWF, List.all_cons, firstToks, nodupB, Bool.and_eq_true, Bool.not_eq_true', List.contains_eq_mem,
    decide_eq_false_iff_not] at h ⊢
  obtain ⟨⟨⟨-, hall⟩, hk, hnd⟩, hlast⟩ := h
  refine ⟨hk, ⟨hall, hnd⟩, ?_⟩
  cases alts with
  | nil => rfl
  | cons b bs => exact hlast

theorem selectAlt_of_mem (k : K) (alts : List (List (El K S))) (i : Nat) (r : List (El K S))
    (hwf : altsWF alts = true) (hm : (El.t k :: r) ∈ alts) :
    ∃ j, selectAlt k alts i = some (j, El.t k :: r) := by
  fun_induction selectAlt k alts i
  case case1 => cases hm
  case case2 tail i =>
    -- an empty alternative that is not last contradicts well-formedness
    cases tail <;> simp_all [altsWF, emptyOnlyLast]
  case case3 rest alts i =>
    -- a second alternative starting with `k` contradicts well-formedness
    rcases List.mem_cons.mp hm with heq | hmem
    · exact ⟨i, by rw [heq]⟩
    · exact absurd (mem_firstToks hmem) (altsWF_cons hwf).1
  case case4 a rest alts i hne ih =>
    rcases List.mem_cons.mp hm with heq | hmem
    · cases heq; exact absurd rfl hne
    · exact ih (altsWF_cons hwf).2 hmem
  case case5 => simp [altsWF, startsWithToken] at hwf

/-- One good witness per alternative, in the order of `allAlts` (the translator's), is enough: C17 then
    never evaluates the search for a witness by rule and index. -/
theorem everyAltWitnessed_of_aligned [DecidableEq S] (g : Grammar K S) (syms : List S) (fuel : Nat)
    (ws : List (S × Nat × List K)) (hal : ws.map (fun w => (w.1, w.2.1)) = allAlts g syms)
    (hok : ws.all (witnessOK g fuel) = true) : everyAltWitnessed g syms fuel ws = true := by
  unfold everyAltWitnessed
  rw [← hal]
  refine List.all_map.trans (List.all_eq_true.mpr fun w hw => List.any_eq_true.mpr ⟨w, hw, ?_⟩)
  -- `beq_self_eq_true` on `Nat` would bring in `Classical.choice`
  have hn : (w.2.1 == w.2.1) = true := decide_eq_true rfl
  show (w.1 == w.1 && w.2.1 == w.2.1 && witnessOK g fuel w) = true
  rw [beq_self_eq_true, hn, List.all_eq_true.mp hok w hw]; rfl

end BW.Proofs.Parser
