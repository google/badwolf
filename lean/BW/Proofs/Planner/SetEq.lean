/-
`SetEq`, sets of rows up to the zone of an anchor: the relation between the planner's table and the reference's
solutions.  The congruences are proved for one inclusion (`SubEq`) and hold for `SetEq` by symmetry.  `StandsFor`:
`SetEq` and no key twice in a row of the planner.
-/
import BW.Proofs.Row
open BW.Model BW.Proofs.ClauseOrder

namespace BW.Proofs.Planner

def SetEq (l l' : List Row) : Prop := (∀ r ∈ l, ∃ r' ∈ l', RowEq r r') ∧ (∀ r' ∈ l', ∃ r ∈ l, RowEq r r')

def SubEq (l l' : List Row) : Prop := ∀ r ∈ l, ∃ r' ∈ l', RowEq r r'

theorem SubEq.refl (l : List Row) : SubEq l l := fun r h => ⟨r, h, RowEq.refl r⟩

theorem subEq_iff {l l' : List Row} : SubEq l l' ↔ l.map den ⊆ l'.map den := by
  constructor
  · intro h d hd
    obtain ⟨r, hr, rfl⟩ := List.mem_map.mp hd
    obtain ⟨r', hr', e⟩ := h r hr
    exact List.mem_map.mpr ⟨r', hr', (rowEq_iff.mp e).symm⟩
  · intro h r hr
    obtain ⟨r', hr', e⟩ := List.mem_map.mp (h (List.mem_map_of_mem hr))
    exact ⟨r', hr', rowEq_iff.mpr e.symm⟩

theorem SubEq.trans {a b c : List Row} (h1 : SubEq a b) (h2 : SubEq b c) : SubEq a c :=
  subEq_iff.mpr ((subEq_iff.mp h1).trans (subEq_iff.mp h2))

theorem SubEq.append {a b c d : List Row} (h1 : SubEq a b) (h2 : SubEq c d) : SubEq (a ++ c) (b ++ d) := fun r hr =>
  (List.mem_append.mp hr).elim
    (fun h => let ⟨r', hr', e⟩ := h1 r h; ⟨r', List.mem_append_left _ hr', e⟩)
    (fun h => let ⟨r', hr', e⟩ := h2 r h; ⟨r', List.mem_append_right _ hr', e⟩)

theorem SubEq.flatMap {α : Type} {l l' : List α} {f g : α → List Row}
    (h : ∀ a ∈ l, ∃ a' ∈ l', SubEq (f a) (g a')) : SubEq (l.flatMap f) (l'.flatMap g) := by
  intro x hx
  obtain ⟨a, ha, hxa⟩ := List.mem_flatMap.mp hx
  obtain ⟨a', ha', hs⟩ := h a ha
  obtain ⟨x', hx', e⟩ := hs x hxa
  exact ⟨x', List.mem_flatMap.mpr ⟨a', ha', hx'⟩, e⟩

theorem SubEq.map {l l' : List Row} {f g : Row → Row} (hfg : ∀ a b, RowEq a b → RowEq (f a) (g b)) (h : SubEq l l') :
    SubEq (l.map f) (l'.map g) := by
  intro x hx
  obtain ⟨a, ha, rfl⟩ := List.mem_map.mp hx
  obtain ⟨b, hb, e⟩ := h a ha
  exact ⟨g b, List.mem_map.mpr ⟨b, hb, rfl⟩, hfg a b e⟩

theorem SubEq.filter {l l' : List Row} {p q : Row → Bool} (hpq : ∀ a ∈ l, ∀ b ∈ l', RowEq a b → p a = q b)
    (h : SubEq l l') : SubEq (l.filter p) (l'.filter q) := by
  intro a ha
  obtain ⟨hal, hpa⟩ := List.mem_filter.mp ha
  obtain ⟨b, hb, e⟩ := h a hal
  exact ⟨b, List.mem_filter.mpr ⟨hb, by rw [← hpq a hal b hb e]; exact hpa⟩, e⟩

theorem SetEq.of_sub {l l' : List Row} (h : SubEq l l') (h' : SubEq l' l) : SetEq l l' :=
  ⟨h, fun r hr => let ⟨x, hx, e⟩ := h' r hr; ⟨x, hx, e.symm⟩⟩

theorem SetEq.sub {l l' : List Row} (h : SetEq l l') : SubEq l l' := h.1

theorem SetEq.symm {l l' : List Row} (h : SetEq l l') : SetEq l' l :=
  .of_sub (fun r hr => let ⟨r', h1, h2⟩ := h.2 r hr; ⟨r', h1, h2.symm⟩) h.sub

theorem SetEq.refl (l : List Row) : SetEq l l := .of_sub (.refl l) (.refl l)

theorem SetEq.trans {a b c : List Row} (h1 : SetEq a b) (h2 : SetEq b c) : SetEq a c :=
  .of_sub (h1.sub.trans h2.sub) (h2.symm.sub.trans h1.symm.sub)

theorem SetEq.append {a b c d : List Row} (h1 : SetEq a b) (h2 : SetEq c d) : SetEq (a ++ c) (b ++ d) :=
  .of_sub (h1.sub.append h2.sub) (h1.symm.sub.append h2.symm.sub)

theorem SetEq.flatMap {α : Type} (l : List α) (f g : α → List Row) (h : ∀ a ∈ l, SetEq (f a) (g a)) :
    SetEq (l.flatMap f) (l.flatMap g) :=
  .of_sub (SubEq.flatMap fun a ha => ⟨a, ha, (h a ha).sub⟩) (SubEq.flatMap fun a ha => ⟨a, ha, (h a ha).symm.sub⟩)

theorem SetEq.flatMap_rows {l l' : List Row} {f g : Row → List Row}
    (hfg : ∀ a ∈ l, ∀ b ∈ l', RowEq a b → SetEq (f a) (g b)) (h : SetEq l l') : SetEq (l.flatMap f) (l'.flatMap g) :=
  .of_sub (SubEq.flatMap fun a ha => let ⟨b, hb, e⟩ := h.1 a ha; ⟨b, hb, (hfg a ha b hb e).sub⟩)
    (SubEq.flatMap fun b hb => let ⟨a, ha, e⟩ := h.2 b hb; ⟨a, ha, (hfg a ha b hb e).symm.sub⟩)

theorem SetEq.map {l l' : List Row} {f g : Row → Row} (hfg : ∀ a b, RowEq a b → RowEq (f a) (g b)) (h : SetEq l l') :
    SetEq (l.map f) (l'.map g) :=
  .of_sub (h.sub.map hfg) (h.symm.sub.map fun a b e => (hfg b a e.symm).symm)

theorem SetEq.filter {l l' : List Row} {p q : Row → Bool} (hpq : ∀ a ∈ l, ∀ b ∈ l', RowEq a b → p a = q b)
    (h : SetEq l l') : SetEq (l.filter p) (l'.filter q) :=
  .of_sub (h.sub.filter hpq) (h.symm.sub.filter fun b hb a ha e => (hpq a ha b hb e.symm).symm)

theorem SetEq.of_den_perm {l l' : List Row} (p : (l.map den).Perm (l'.map den)) : SetEq l l' :=
  .of_sub (subEq_iff.mpr p.subset) (subEq_iff.mpr p.symm.subset)

theorem SetEq.of_perm {l l' : List Row} (h : l.Perm l') : SetEq l l' := .of_den_perm (h.map den)

theorem setEq_isEmpty {a b : List Row} (h : SetEq a b) : a.isEmpty = b.isEmpty := by
  cases a with
  | nil => cases b with
    | nil => rfl
    | cons x b => obtain ⟨_, hm, _⟩ := h.2 x List.mem_cons_self; cases hm
  | cons x a => cases b with
    | nil => obtain ⟨_, hm, _⟩ := h.1 x List.mem_cons_self; cases hm
    | cons y b => rfl

theorem SetEq.singleton {a b : Row} (h : RowEq a b) : SetEq [a] [b] :=
  ⟨fun _ hx => ⟨b, List.mem_singleton_self b, List.mem_singleton.mp hx ▸ h⟩,
   fun _ hx => ⟨a, List.mem_singleton_self a, List.mem_singleton.mp hx ▸ h⟩⟩

theorem setEq_singleton_of_all_eq {l : List Row} {r : Row} (hne : l ≠ []) (h : ∀ x ∈ l, x = r) : SetEq l [r] :=
  ⟨fun x hx => ⟨r, List.mem_singleton.mpr rfl, h x hx ▸ RowEq.refl x⟩,
   fun x hx => by
    obtain ⟨y, hy⟩ := List.exists_mem_of_ne_nil l hne
    exact ⟨y, hy, by rw [List.mem_singleton.mp hx, h y hy]; exact RowEq.refl r⟩⟩

/-- What every step of the planner is shown to leave, `ref` being the reference's rows.  No key twice: the planner's
    `compatibleRows` and the reference's `compatible` read a row with a repeated key differently. -/
structure StandsFor (out ref : List Row) : Prop where
  setEq : SetEq out ref
  nodup : AllNodup out

theorem StandsFor.append {a b c d : List Row} (h1 : StandsFor a b) (h2 : StandsFor c d) : StandsFor (a ++ c) (b ++ d) :=
  ⟨h1.setEq.append h2.setEq, fun x hx => (List.mem_append.mp hx).elim (h1.nodup x) (h2.nodup x)⟩

theorem StandsFor.flatMap {α : Type} (l : List α) (f g : α → List Row) (h : ∀ a ∈ l, StandsFor (f a) (g a)) :
    StandsFor (l.flatMap f) (l.flatMap g) :=
  ⟨.flatMap l f g fun a ha => (h a ha).setEq, fun x hx => let ⟨a, ha, hxa⟩ := List.mem_flatMap.mp hx; (h a ha).nodup x hxa⟩

end BW.Proofs.Planner
