/-
`leftJoin` (Join.lean): the reference's join step maps it over the rows with the clause's matches, every strategy of
the planner with what it fetched.  Here what `leftJoin` respects, and the reference side: one row of a join step is
`leftJoin` with `rowMatch`, its rows keep `RowOK` and hold names of the row or of the clause; `rowMatch` reads the row
at the clause's bound aliases only (`SameBounds`), so the step respects `SetEq`, and a row without the clause's names
matches as a fetch does.
-/
import BW.Proofs.Planner.Universe
import BW.Proofs.Join
open BW.Model BW.Spec BW.Proofs.ClauseOrder
open BW.Proofs.Query (joinBy joinClauseO_by)

namespace BW.Proofs.Planner

variable {gs : List QGraph}

theorem nullRow_get (bs : List Bytes) (r : Row) (k : Bytes) (v : Cell) (h : (nullRow bs r).get k = some v) :
    k ∈ bs ∧ v = .null := by
  obtain ⟨k', hk', e⟩ := List.mem_map.mp (mem_of_get _ k v h)
  cases e
  exact ⟨(List.mem_filter.mp hk').1, rfl⟩

theorem nullRow_nodup (bs : List Bytes) (hb : bs.Nodup) (r : Row) : KeysNodup (nullRow bs r) := by
  unfold KeysNodup nullRow
  rw [List.map_map]
  have : ((fun x : Bytes × Cell => x.1) ∘ fun k => (k, Cell.null)) = id := rfl
  rw [this, List.map_id]
  exact hb.filter _

theorem nullRow_congr (bs : List Bytes) {r r' : Row} (h : RowEq r r') : nullRow bs r = nullRow bs r' := by
  unfold nullRow
  congr 1
  apply List.filter_congr
  intro k _
  rw [rowEq_has h]

theorem leftJoin_forall {P : Row → Prop} {r : Row} {opt : Bool} {bs : List Bytes} {ms : List Row}
    (hm : ∀ m ∈ ms, P (r.merge m)) (hnull : P (r.merge (nullRow bs r))) : ∀ x ∈ leftJoin r opt bs ms, P x := by
  have hmap : ∀ x ∈ (ms.filter (compatible r)).map r.merge, P x := by
    intro x hx
    obtain ⟨m, hmm, rfl⟩ := List.mem_map.mp hx
    exact hm m (List.mem_filter.mp hmm).1
  intro x hx
  unfold leftJoin at hx
  simp only at hx
  split at hx
  · split at hx
    · rw [List.mem_singleton.mp hx]; exact hnull
    · exact hmap x hx
  · exact hmap x hx

theorem leftJoin_nomatch {r : Row} {bs : List Bytes} {ms : List Row} (h : ms.filter (compatible r) = []) :
    leftJoin r true bs ms = [r.merge (nullRow bs r)] := by
  unfold leftJoin; rw [h]; rfl

theorem leftJoin_optional_ne_nil (r : Row) (bs : List Bytes) (ms : List Row) : leftJoin r true bs ms ≠ [] := by
  unfold leftJoin
  cases ms.filter (compatible r) <;> exact List.cons_ne_nil _ _

theorem leftJoin_congr {r r' : Row} (hn : KeysNodup r) (hn' : KeysNodup r') (hr : RowEq r r') (opt : Bool) (bs : List Bytes)
    {ms ms' : List Row} (h : SetEq ms ms') : SetEq (leftJoin r opt bs ms) (leftJoin r' opt bs ms') := by
  have hf : SetEq (ms.filter (compatible r)) (ms'.filter (compatible r')) :=
    h.filter fun a _ b _ e => compatible_congr r r' a b hn hn' hr e
  have hmap := hf.map (f := r.merge) (g := r'.merge) fun a b e => merge_congr r r' a b hr e
  unfold leftJoin
  simp only [setEq_isEmpty hf, nullRow_congr bs hr]
  split
  · split
    · exact .singleton (merge_congr r r' _ _ hr (RowEq.refl _))
    · exact hmap
  · exact hmap

theorem leftJoin_fetched {r : Row} (hr : KeysNodup r) (opt : Bool) {bs : List Bytes} (hb : bs.Nodup)
    {fetched ms : List Row} (h : StandsFor fetched ms) : StandsFor (leftJoin r opt bs fetched) (leftJoin r opt bs ms) :=
  ⟨leftJoin_congr hr hr (RowEq.refl r) _ _ h.setEq,
    leftJoin_forall (fun m hm => merge_nodup r m hr (h.nodup m hm)) (merge_nodup r _ hr (nullRow_nodup _ hb r))⟩

/-- The model tests the cells of the fetched row against the table row, the reference the other way round. -/
theorem compatibleRows_eq (r nr : Row) (hr : KeysNodup r) (hn : KeysNodup nr) :
    compatibleRows r nr = compatible r nr := by
  rw [compatible_comm hr hn]
  refine congrArg nr.all (funext fun ⟨k, v⟩ => ?_)
  show (match r.get k with | some ov => sameCell ov v | none => true) = match r.get k with | some ov => cellSame v ov | none => true
  cases r.get k with
  | none => rfl
  | some ov => exact (sameCell_eq ov v).trans (cellSame_comm ov v)

theorem joinRow_eq {r : Row} (opt : Bool) (bs : List Bytes) {fetched : List Row} (hr : KeysNodup r)
    (hf : AllNodup fetched) : joinRow r opt bs fetched = leftJoin r opt bs fetched := by
  unfold joinRow leftJoin nullRow
  simp only [List.filter_congr fun m hm => compatibleRows_eq r m hr (hf m hm)]
  cases opt <;> cases (fetched.filter (compatible r)).isEmpty <;> rfl

theorem leftJoin_of_compatible {r : Row} (opt : Bool) (bs : List Bytes) {ms : List Row} (h : ∀ m ∈ ms, compatible r m = true) :
    leftJoin r opt bs ms = if opt && ms.isEmpty then [r.merge (nullRow bs r)] else ms.map r.merge := by
  unfold leftJoin
  simp only [List.filter_eq_self.mpr h]
  cases opt <;> cases ms.isEmpty <;> rfl

theorem leftJoin_nothing {r : Row} (opt : Bool) {bs : List Bytes} {ms : List Row} (h : ∀ m ∈ ms, m = [])
    (hnull : nullRow bs r = []) : SetEq (leftJoin r opt bs ms) (if !ms.isEmpty || opt then [r] else []) := by
  rw [leftJoin_of_compatible opt bs fun m hm => h m hm ▸ compatible_nil r, hnull, merge_nil]
  cases ms with
  | nil => cases opt <;> exact SetEq.refl _
  | cons m ms =>
    simp only [List.isEmpty_cons, Bool.and_false, Bool.false_eq_true, if_false, Bool.not_false, Bool.true_or, if_true]
    refine setEq_singleton_of_all_eq (by simp) fun x hx => ?_
    obtain ⟨m', hm', rfl⟩ := List.mem_map.mp hx
    rw [h m' hm', merge_nil]

/-- The constants `specialise` adds change nothing for the row's join. -/
theorem leftJoin_specialised {r : Row} {c c' : Clause} (h : Specialised r c c') (opt : Bool) (bs : List Bytes) (w : Window)
    (scan : List Triple) :
    leftJoin r opt bs (scan.filterMap (matchClause c' w)) = leftJoin r opt bs (scan.filterMap (matchClause c w)) := by
  unfold leftJoin
  simp only [filter_specialised h]

def setO (lo hi : Option Time) (la ua : Bytes) (c : Clause) : Clause :=
  { c with oLower := lo, oUpper := hi, oLowerAlias := la, oUpperAlias := ua }

def rowBound (r : Row) (alias : Bytes) (own : Option Time) : Option Time :=
  if alias = [] then own else rowTimeT r alias

theorem withRowObjBounds_eq (c : Clause) (r : Row) :
    withRowObjBounds c r = setO (rowBound r c.oLowerAlias c.oLower) (rowBound r c.oUpperAlias c.oUpper) c.oLowerAlias c.oUpperAlias c := by
  cases c
  unfold withRowObjBounds rowBound setO
  rename_i la ua _
  by_cases h1 : la = [] <;> by_cases h2 : ua = [] <;> simp [h1, h2]

theorem withRowObjBounds_bindings (c : Clause) (r : Row) : (withRowObjBounds c r).bindings = c.bindings := by
  rw [withRowObjBounds_eq]; rfl

theorem leftJoin_rows (U : Universe gs) {r : Row} (hr : RowOK U r) (opt : Bool) {bs : List Bytes} (hb : bs.Nodup)
    {ms : List Row} (hm : ∀ m ∈ ms, RowOK U m ∧ ∀ k, m.has k = true → k ∈ bs) :
    ∀ x ∈ leftJoin r opt bs ms, RowOK U x ∧ ∀ k, x.has k = true → r.has k = true ∨ k ∈ bs := by
  have key : ∀ m : Row, (RowOK U m ∧ ∀ k, m.has k = true → k ∈ bs) →
      RowOK U (r.merge m) ∧ ∀ k, (r.merge m).has k = true → r.has k = true ∨ k ∈ bs := by
    intro m hm
    refine ⟨⟨merge_nodup r m hr.1 hm.1.1, rowIn_merge U hr.2 hm.1.2⟩, fun k h => ?_⟩
    rw [has_merge, Bool.or_eq_true] at h
    exact h.imp_right (hm.2 k)
  exact leftJoin_forall (fun m h => key m (hm m h))
    (key _ ⟨⟨nullRow_nodup _ hb r, fun k v hv => by rw [(nullRow_get _ _ k v hv).2]; exact trivial⟩,
      fun k hk => let ⟨v, hv⟩ := get_of_has hk; (nullRow_get _ _ k v hv).1⟩)

theorem joinClauseO_rows (U : Universe gs) (glo ghi : Option Int) (c : Clause) {rows : List Row} (hr : ∀ r ∈ rows, RowOK U r) :
    ∀ x ∈ joinClauseO (gs.flatMap scanOf) glo ghi rows c,
      RowOK U x ∧ ∀ k, x.has k = true → (∃ r ∈ rows, r.has k = true) ∨ k ∈ c.bindings := by
  intro x hx
  rw [joinClauseO_by] at hx
  obtain ⟨r, hrm, hxr⟩ := List.mem_flatMap.mp hx
  refine (leftJoin_rows U (hr r hrm) _ (bindings_nodup c) (fun m hm => ?_) x hxr).imp_right
    fun h k hk => (h k hk).imp_left fun h => ⟨r, hrm, h⟩
  obtain ⟨t, ht, hmc⟩ := List.mem_filterMap.mp hm
  exact ⟨⟨matchClause_nodup _ _ _ _ hmc, match_in U ht hmc⟩,
    withRowObjBounds_bindings c r ▸ specBind_keys (matchClause_specBind hmc)⟩

theorem rowTime_eq_nl_rowTimeT (r : Row) (k : Bytes) : rowTime r k = nl (rowTimeT r k) := by
  unfold rowTime rowTimeT
  cases r.get k with
  | none => rfl
  | some v => cases v <;> rfl

/-- Beyond joining with it, a join step reads a row at the clause's bound aliases, and there the instant only. -/
def SameBounds (c : Clause) (r r' : Row) : Prop := ∀ k ∈ boundAliases c, k ≠ [] → rowTime r k = rowTime r' k

theorem SameBounds.of_rowEq (c : Clause) {r r' : Row} (h : RowEq r r') : SameBounds c r r' := fun k _ _ => by
  rw [rowTime_den, rowTime_den, rowEq_iff.mp h]

theorem SameBounds.of_lacking {c : Clause} {r : Row} (h : ∀ k ∈ c.bindings, r.has k = false) : SameBounds c r [] :=
  fun k hk hne => by
    rw [rowTime, get_none_of_not_has (h k (mem_bindings.mpr ⟨hne, List.mem_append_right _ hk⟩))]; rfl

theorem clauseWindow_sameBounds (glo ghi : Option Int) {c : Clause} {r r' : Row} (h : SameBounds c r r') :
    clauseWindow glo ghi c r = clauseWindow glo ghi c r' := by
  have e : ∀ a ∈ boundAliases c, aliasBound a r = aliasBound a r' := fun a ha => by
    unfold aliasBound; split
    · exact h a ha ‹_›
    · rfl
  rw [clauseWindow_closed, clauseWindow_closed, e _ (by simp [boundAliases]), e _ (by simp [boundAliases])]

/-- `matchClause` reads the object's interval as instants, and not where it came from. -/
theorem matchClause_setO (c : Clause) {lo lo' hi hi' : Option Time} (la ua la' ua' : Bytes) (hl : nl lo = nl lo')
    (hh : nl hi = nl hi') : matchClause (setO lo hi la ua c) = matchClause (setO lo' hi' la' ua' c) := by
  funext w t
  unfold nl at hl hh
  unfold matchClause constsMatch clauseSteps setO
  dsimp only
  rw [hl, hh]

theorem rowMatch_sameBounds (glo ghi : Option Int) {c : Clause} {r r' : Row} (h : SameBounds c r r') :
    rowMatch glo ghi c r = rowMatch glo ghi c r' := by
  have b : ∀ alias ∈ boundAliases c, ∀ own, nl (rowBound r alias own) = nl (rowBound r' alias own) := by
    intro alias ha own
    unfold rowBound
    split
    · rfl
    · rw [← rowTime_eq_nl_rowTimeT, ← rowTime_eq_nl_rowTimeT]; exact h alias ha ‹_›
  unfold rowMatch
  rw [clauseWindow_sameBounds glo ghi h, withRowObjBounds_eq, withRowObjBounds_eq,
    matchClause_setO c _ _ _ _ (b _ (by simp [boundAliases]) _) (b _ (by simp [boundAliases]) _)]

theorem rowMatch_plain (glo ghi : Option Int) {c : Clause} (h : NoObjAliases c) (r : Row) :
    rowMatch glo ghi c r = matchClause c (clauseWindow glo ghi c r) := by
  unfold rowMatch
  rw [withRowObjBounds_plain h]

theorem rowMatch_nil (glo ghi : Option Int) {c : Clause} (hex : ObjBoundExcl c) :
    rowMatch glo ghi c [] = matchClause c (clauseWindow glo ghi c []) := by
  have b : ∀ (alias : Bytes) (own : Option Time), (alias ≠ [] → own = none) → rowBound [] alias own = own := by
    intro alias own ho
    unfold rowBound
    split
    · rfl
    · exact (ho ‹_›).symm
  unfold rowMatch
  rw [withRowObjBounds_eq, b _ _ hex.1, b _ _ hex.2]
  rfl

theorem specJoinO_lacking (scan : List Triple) (glo ghi : Option Int) (c : Clause) (r : Row) (hex : ObjBoundExcl c)
    (h : ∀ k ∈ c.bindings, r.has k = false) :
    specJoinO scan glo ghi c r =
      leftJoin r c.optional c.bindings (scan.filterMap (matchClause c (clauseWindow glo ghi c []))) := by
  rw [specJoinO_by, rowMatch_sameBounds glo ghi (.of_lacking h), rowMatch_nil glo ghi hex]

/-- A join step respects `SetEq`, whenever what it makes of the clause for a row does not depend on the zone of an anchor. -/
theorem joinBy_setEq {f : Row → Triple → Option Row} (hf : ∀ r r', RowEq r r' → f r = f r') (opt : Bool) (bs : List Bytes)
    (scan : List Triple) {rows rows' : List Row} (hn : AllNodup rows) (hn' : AllNodup rows') (h : SetEq rows rows') :
    SetEq (joinBy f opt bs scan rows) (joinBy f opt bs scan rows') :=
  h.flatMap_rows fun r hr r' hr' e => hf r r' e ▸ leftJoin_congr (hn r hr) (hn' r' hr') e _ _ (SetEq.refl _)

theorem joinClause_setEq (scan : List Triple) (glo ghi : Option Int) (c : Clause) {rows rows' : List Row}
    (hn : ∀ r ∈ rows, KeysNodup r) (hn' : ∀ r ∈ rows', KeysNodup r) (h : SetEq rows rows') :
    SetEq (joinClause scan glo ghi rows c) (joinClause scan glo ghi rows' c) :=
  joinBy_setEq (f := fun r => matchClause c (clauseWindow glo ghi c r))
    (fun _ _ e => by rw [clauseWindow_sameBounds glo ghi (.of_rowEq c e)]) _ _ scan hn hn' h

theorem joinClauseO_setEq (scan : List Triple) (glo ghi : Option Int) (c : Clause) {rows rows' : List Row}
    (hn : AllNodup rows) (hn' : AllNodup rows') (h : SetEq rows rows') :
    SetEq (joinClauseO scan glo ghi rows c) (joinClauseO scan glo ghi rows' c) :=
  joinBy_setEq (fun _ _ e => rowMatch_sameBounds glo ghi (.of_rowEq c e)) _ _ scan hn hn' h

theorem foldl_join_setEq (U : Universe gs) (glo ghi : Option Int) (cs : List Clause) :
    ∀ {rows rows' : List Row}, (∀ r ∈ rows, RowOK U r) → (∀ r ∈ rows', RowOK U r) → SetEq rows rows' →
    SetEq (cs.foldl (joinClauseO (gs.flatMap scanOf) glo ghi) rows) (cs.foldl (joinClauseO (gs.flatMap scanOf) glo ghi) rows') := by
  induction cs with
  | nil => intro rows rows' _ _ h; exact h
  | cons c cs ih =>
    intro rows rows' hn hn' h
    exact ih (fun x hx => (joinClauseO_rows U _ _ c hn x hx).1) (fun x hx => (joinClauseO_rows U _ _ c hn' x hx).1)
      (joinClauseO_setEq _ _ _ c (fun r hr => (hn r hr).1) (fun r hr => (hn' r hr).1) h)

end BW.Proofs.Planner
