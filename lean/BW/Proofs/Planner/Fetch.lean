/-
`simpleFetch` is the reference's match on a scan.  With an open position it is one look-up per graph, a filter over
the stored views by C02's `lookup_eq_scan`; fully specified it is an existence probe by the store's key (hence
`AnchorsApart`).  Both select the views whose triple has the clause's constants inside the window (`selected_spec`).
-/
import BW.Proofs.Planner.Names
import BW.Proofs.Lookup
import BW.Proofs.UUID
open BW.Model BW.Spec BW.Proofs.Lists BW.Proofs.ClauseOrder BW.Proofs.Store BW.Proofs.Lookup

namespace BW.Proofs.Planner

theorem preObj_false_some (o : Obj) : ∃ b, preObj false o = some b :=
  Option.isSome_iff_exists.mp (BW.Proofs.UUID.preObj_defined o)

theorem objSame_preObj {o o' : Obj} (h : objSame o o' = true) : preObj false o = preObj false o' := by
  rcases objSame_inv h with rfl | ⟨p, p', rfl, rfl, hpp⟩
  · rfl
  · have ⟨h1, h2⟩ := predSame_parts hpp
    have h3 := congrArg (Option.map toInt64) h2
    rw [Option.map_map, Option.map_map] at h3
    exact congrArg some (UUID.prePred_congr p p' h1 h3)

def fixedMatch (s? : Option Node) (p? : Option Pred) (ko? : Option Bytes) (v : TView) : Bool :=
  (match s? with | some s => v.ks == preNode s | none => true) &&
  (match p? with | some p => predMatches (predPQ p) v | none => true) &&
  (match ko? with | some ko => v.ko == ko | none => true)

/-- What one graph contributes to a fetch with method `m`. -/
def graphRows (c : Clause) (lo : QOpts) (m : Method) (a : LArgs) (rebuild : Triple → Triple) (q : QGraph) : List Row :=
  ((q.triples (sortByStr ((q.g.master.filter (matchesArgs m a)).filter
      (inWindow (toLookupOpts (updateTimeBounds lo c) 0))))).map rebuild).filterMap (fetchRow c)

theorem fetch_fold {F : Facts} (hF : Facts.WF F = true) (gs : List QGraph) (hinv : ∀ q ∈ gs, Inv F q.g)
    (c : Clause) (hid : IdAliasPlain c) (lo : QOpts) (hfil : lo.filter = none)
    (m : Method) (a : LArgs) (b : Bool) (reb : Triple → Triple) (f : List Row → QGraph → Except QErr (List Row))
    (haok : argsOK m a = true)
    (hf : ∀ acc, ∀ q ∈ gs, ∀ vs, q.g.lookup F m a (toLookupOpts (updateTimeBounds lo c) 0) = .ok vs →
      f acc q = (do
        let rows ← addTriples (if b = true then (q.triples vs).map reb else q.triples vs) c
        pure (acc ++ rows))) :
    gs.foldlM f [] = .ok (gs.flatMap (graphRows c lo m a fun t => if b = true then reb t else t)) := by
  rw [foldlM_flatMap f _ gs _ [], List.nil_append]
  intro acc q hq
  rw [hf acc q hq _ (lookup_unpaged hF (hinv q hq) m a haok rfl rfl (by simp [toLookupOpts, updateTimeBounds, hfil]))]
  cases b <;> simp [bind, Except.bind, addTriples_eq c hid, pure, Except.pure, graphRows]

def fetchMethod : Option Node → Option Pred → Option Obj → Method
  | some _, some _, none => .objects
  | some _, none, some _ => .predsForSO
  | none, some _, some _ => .subjects
  | some _, none, none => .triplesForS
  | none, some _, none => .triplesForP
  | none, none, some _ => .triplesForO
  | _, _, _ => .triples

def fetchArgs (s? : Option Node) (p? : Option Pred) (ko? : Option Bytes) : LArgs :=
  { s := (s?.map preNode).getD [], p := p?.map predPQ, o := ko?.getD [] }

/-- Objects / Subjects / Predicates deliver one component; the triple is rebuilt from the fixed ones. -/
def rebuild (c : Clause) (t : Triple) : Triple :=
  if (fetchMethod c.s c.p c.o == .objects || fetchMethod c.s c.p c.o == .predsForSO ||
      fetchMethod c.s c.p c.o == .subjects) = true
  then { s := c.s.getD t.s, p := c.p.getD t.p, o := c.o.getD t.o } else t

theorem matchesArgs_fetch (s? : Option Node) (p? : Option Pred) (o? : Option Obj)
    (hpart : ¬ (s?.isSome ∧ p?.isSome ∧ o?.isSome)) (v : TView) :
    matchesArgs (fetchMethod s? p? o?) (fetchArgs s? p? (o?.bind (preObj false))) v =
      fixedMatch s? p? (o?.bind (preObj false)) v := by
  cases o? with
  | none => cases s? <;> cases p? <;> simp [fetchMethod, fetchArgs, matchesArgs, fixedParts, fixedMatch]
  | some o =>
    obtain ⟨b, hb⟩ := preObj_false_some o
    rw [Option.bind_some, hb]
    cases s? <;> cases p? <;> simp at hpart <;> simp [fetchMethod, fetchArgs, matchesArgs, fixedParts, fixedMatch]

theorem argsOK_fetch (s? : Option Node) (p? : Option Pred) (o? : Option Obj) (ko? : Option Bytes) :
    argsOK (fetchMethod s? p? o?) (fetchArgs s? p? ko?) = true := by
  cases s? <;> cases p? <;> cases o? <;> rfl

theorem simpleFetch_open {F : Facts} (hF : Facts.WF F = true) (gs : List QGraph) (hinv : ∀ q ∈ gs, Inv F q.g)
    (c : Clause) (hid : IdAliasPlain c) (lo : QOpts) (hfil : lo.filter = none)
    (hpart : ¬ (c.s.isSome ∧ c.p.isSome ∧ c.o.isSome)) :
    simpleFetch F gs c lo 0 = .ok (gs.flatMap (graphRows c lo (fetchMethod c.s c.p c.o)
      (fetchArgs c.s c.p (c.o.bind (preObj false))) (rebuild c))) := by
  have hko : (match c.o with | some o => (preObj false o).map some | none => some none) = some (c.o.bind (preObj false)) := by
    cases c.o with
    | none => rfl
    | some o => obtain ⟨b, hb⟩ := preObj_false_some o; simp [hb]
  unfold simpleFetch
  split
  · rename_i h1 h2 h3; simp [h1, h2, h3] at hpart
  split
  · rename_i heq; cases heq.symm.trans hko
  rename_i ko? heq
  cases heq.symm.trans hko
  refine fetch_fold hF gs hinv c hid lo hfil _ _ _ _ _ (argsOK_fetch ..) fun acc q hq vs hvs => ?_
  simp only [ite_self]
  generalize hL : Graph.lookup F q.g _ _ _ = L
  cases hL.symm.trans hvs
  rfl

theorem inWindow_holds (lo : QOpts) (c : Clause) (v : TView) (p : Pred) (hv : v.pnano = p.anchor.map (·.nanos)) :
    inWindow (toLookupOpts (updateTimeBounds lo c) 0) v = (fetchWindow lo c).holds p := by
  rw [fetchWindow_bounds]
  unfold inWindow Window.holds
  rw [hv]
  cases p with
  | imm i => rfl
  | tmp i t =>
    simp only [Pred.anchor, toLookupOpts, Option.map_some]
    cases (updateTimeBounds lo c).lower <;> cases (updateTimeBounds lo c).upper <;> rfl

theorem Faithful.view {q : QGraph} (hq : Faithful q) {v : TView} (hv : v ∈ q.g.master) {t : Triple}
    (hu : q.uni v.id = some t) :
    v.ks = preNode t.s ∧ v.pid = t.p.id ∧ v.pnano = t.p.anchor.map (·.nanos) ∧ preObj false t.o = some v.ko := by
  obtain ⟨t0, hu0, h⟩ := hq v hv
  cases hu.symm.trans hu0
  exact h

theorem mem_scanOf {q : QGraph} {v : TView} (hv : v ∈ q.g.master) {t : Triple} (hu : q.uni v.id = some t) :
    t ∈ scanOf q :=
  List.mem_filterMap.mpr ⟨v, hv, hu⟩

theorem view_subject {s : Node} {v : TView} {t : Triple} (hks : v.ks = preNode t.s)
    (hap : preNode s = preNode t.s → s = t.s) : v.ks = preNode s ↔ s = t.s :=
  ⟨fun h => hap (h.symm.trans hks), fun h => by rw [h, hks]⟩

theorem view_object {o : Obj} {ko : Bytes} {v : TView} {t : Triple} (hko : preObj false o = some ko)
    (hkot : preObj false t.o = some v.ko)
    (hap : preObj false o = preObj false t.o → objSame o t.o = true) : v.ko = ko ↔ objSame o t.o = true := by
  constructor
  · intro h; exact hap (by rw [hko, hkot, h])
  · intro h
    have := objSame_preObj h
    rw [hko, hkot] at this
    exact (Option.some.inj this).symm

theorem fixedMatch_consts (c : Clause) (v : TView) (t : Triple)
    (hks : v.ks = preNode t.s) (hpid : v.pid = t.p.id) (hpn : v.pnano = t.p.anchor.map (·.nanos))
    (hko : preObj false t.o = some v.ko)
    (hapS : ∀ s, c.s = some s → preNode s = preNode t.s → s = t.s)
    (hapO : ∀ o, c.o = some o → preObj false o = preObj false t.o → objSame o t.o = true) :
    fixedMatch c.s c.p (c.o.bind (preObj false)) v = constsMatch c t := by
  unfold fixedMatch constsMatch
  congr 1
  · congr 1
    · cases hs : c.s with
      | none => rfl
      | some s =>
        rw [Bool.eq_iff_iff, beq_iff_eq, beq_iff_eq]
        exact view_subject hks (hapS s hs)
    · cases hp : c.p with
      | none => rfl
      | some p => simp only [predMatches, predPQ, predSame, hpid, hpn]
  · cases ho : c.o with
    | none => rfl
    | some o =>
      obtain ⟨b, hb⟩ := preObj_false_some o
      rw [Option.bind_some, hb, Bool.eq_iff_iff, beq_iff_eq]
      exact view_object hb hko (hapO o ho)

/-- The reference's matches, without the rows that bind nothing (`Table.AddRow` drops those). -/
def specRows (c : Clause) (w : Window) (scan : List Triple) : List Row :=
  (scan.filterMap (matchClause c w)).filter fun r => !r.isEmpty

theorem specRows_mem {c : Clause} {w : Window} {scan : List Triple} {m : Row} (h : m ∈ specRows c w scan) :
    ∃ t ∈ scan, matchClause c w t = some m :=
  List.mem_filterMap.mp (List.mem_filter.mp h).1

theorem specRows_all {c : Clause} (h : c.extractsNothing = false) (w : Window) (scan : List Triple) :
    specRows c w scan = scan.filterMap (matchClause c w) := by
  unfold specRows
  apply List.filter_eq_self.mpr
  intro m hm
  obtain ⟨t, _, hmc⟩ := List.mem_filterMap.mp hm
  rw [specBind_isEmpty (matchClause_specBind hmc), h]; rfl

theorem specRows_flatMap {α : Type} (c : Clause) (w : Window) (l : List α) (f : α → List Triple) :
    specRows c w (l.flatMap f) = l.flatMap fun a => specRows c w (f a) := by
  unfold specRows
  rw [List.filterMap_flatMap, List.filter_flatMap]

theorem specRows_outside (c : Clause) (w : Window) (p : Pred) (hp : c.p = some p) (hw : w.holds p = false)
    (scan : List Triple) : specRows c w scan = [] := by
  unfold specRows
  rw [List.filterMap_eq_nil_iff.mpr, List.filter_nil]
  intro t _
  cases hm : matchClause c w t with
  | none => rfl
  | some r =>
    have hh := (matchClause_some hm).window
    -- the constant `p` is the triple's predicate up to the zone of its anchor, outside the window
    rw [← holds_congr w (((constsMatch_iff c t).mp (matchClause_some hm).consts).2.1 p hp), hw] at hh
    cases hh

/-- The reference's rows on a stored graph, in the terms of the fetch: what `fetchRow` makes of the triples with the
    clause's constants inside the window. -/
theorem mem_specRows (q : QGraph) (c : Clause) (w : Window) (ht : Tight c w) (r : Row) :
    r ∈ specRows c w (scanOf q) ↔ ∃ v ∈ q.g.master, ∃ t, q.uni v.id = some t ∧
      constsMatch c t = true ∧ w.holds t.p = true ∧ fetchRow c t = some r := by
  unfold specRows scanOf QGraph.triples
  simp only [List.mem_filter, List.mem_filterMap, Bool.not_eq_true', matchClause_some_iff c w _ ht, fetchRow_some]
  constructor
  · rintro ⟨⟨t, ⟨v, hv, hu⟩, h1, h2, h3, h4⟩, he⟩; exact ⟨v, hv, t, hu, h1, h2, h3, h4, he⟩
  · rintro ⟨v, hv, t, hu, h1, h2, h3, h4, he⟩; exact ⟨⟨t, ⟨v, hv, hu⟩, h1, h2, h3, h4⟩, he⟩

/-- The one argument behind both shapes of `simpleFetch`: `sel` is the look-up's filter or the probe's key test,
    `rb` the rebuilding of a triple from the clause's constants. -/
theorem selected_spec (q : QGraph) (c : Clause) (w : Window) (ht : Tight c w) (sel : TView → Bool)
    (rb : Triple → Triple) (L : List Row)
    (hL : ∀ r, r ∈ L ↔ ∃ v ∈ q.g.master, ∃ t, q.uni v.id = some t ∧ sel v = true ∧ fetchRow c (rb t) = some r)
    (hsel : ∀ v ∈ q.g.master, ∀ t, q.uni v.id = some t →
      (sel v = true ↔ constsMatch c t = true ∧ w.holds t.p = true))
    (hrb : ∀ t, constsMatch c t = true → TripleEq (rb t) t) :
    StandsFor L (specRows c w (scanOf q)) := by
  refine ⟨⟨?_, ?_⟩, fun r hr => let ⟨_, _, _, _, _, hf⟩ := (hL r).mp hr; fetchRow_nodup hf⟩
  · intro r hr
    obtain ⟨v, hv, t, hu, hs, hf⟩ := (hL r).mp hr
    obtain ⟨h1, h2⟩ := (hsel v hv t hu).mp hs
    obtain ⟨r', hft, he⟩ := (fetchRow_congr c (hrb t h1)).of_some hf
    exact ⟨r', (mem_specRows q c w ht r').mpr ⟨v, hv, t, hu, h1, h2, hft⟩, he⟩
  · intro r' hr'
    obtain ⟨v, hv, t, hu, h1, h2, hft⟩ := (mem_specRows q c w ht r').mp hr'
    obtain ⟨r, hf, heq⟩ := (fetchRow_congr c (hrb t h1)).symm.of_some hft
    exact ⟨r, (hL r).mpr ⟨v, hv, t, hu, (hsel v hv t hu).mpr ⟨h1, h2⟩, hf⟩, heq.symm⟩

theorem rebuild_tripleEq {c : Clause} {t : Triple} (hc : constsMatch c t = true) : TripleEq (rebuild c t) t := by
  unfold rebuild
  split
  · obtain ⟨h1, h2, h3⟩ := (constsMatch_iff c t).mp hc
    refine ⟨?_, ?_, ?_⟩
    · cases hs : c.s with
      | none => rfl
      | some s => exact h1 s hs
    · cases hp : c.p with
      | none => exact (TripleEq.refl t).2.1
      | some p => exact h2 p hp
    · cases ho : c.o with
      | none => exact (TripleEq.refl t).2.2
      | some o => exact h3 o ho
  · exact TripleEq.refl t

theorem graphRows_spec (q : QGraph) (hq : Faithful q) (c : Clause) (lo : QOpts)
    (hpart : ¬ (c.s.isSome ∧ c.p.isSome ∧ c.o.isSome))
    (hapS : ∀ s, c.s = some s → ∀ t ∈ scanOf q, preNode s = preNode t.s → s = t.s)
    (hapO : ∀ o, c.o = some o → ∀ t ∈ scanOf q, preObj false o = preObj false t.o → objSame o t.o = true) :
    StandsFor (graphRows c lo (fetchMethod c.s c.p c.o) (fetchArgs c.s c.p (c.o.bind (preObj false))) (rebuild c) q)
      (specRows c (fetchWindow lo c) (scanOf q)) := by
  refine selected_spec q c _ (tight_fetchWindow lo c)
    (fun v => matchesArgs (fetchMethod c.s c.p c.o) (fetchArgs c.s c.p (c.o.bind (preObj false))) v &&
      inWindow (toLookupOpts (updateTimeBounds lo c) 0) v) _ _ (fun r => ?_)
    (fun v hv t hu => ?_) (fun t => rebuild_tripleEq)
  · unfold graphRows QGraph.triples
    simp only [List.mem_filterMap, List.mem_map, sortByStr, (List.mergeSort_perm _ _).mem_iff, List.mem_filter,
      Bool.and_eq_true]
    constructor
    · rintro ⟨_, ⟨t, ⟨v, ⟨⟨hv, h1⟩, h2⟩, hu⟩, rfl⟩, hf⟩; exact ⟨v, hv, t, hu, ⟨h1, h2⟩, hf⟩
    · rintro ⟨v, hv, t, hu, ⟨h1, h2⟩, hf⟩; exact ⟨_, ⟨t, ⟨v, ⟨⟨hv, h1⟩, h2⟩, hu⟩, rfl⟩, hf⟩
  · obtain ⟨hks, hpid, hpn, hko⟩ := hq.view hv hu
    have ht := mem_scanOf hv hu
    rw [Bool.and_eq_true, matchesArgs_fetch _ _ _ hpart, fixedMatch_consts c v t hks hpid hpn hko
      (fun s hs => hapS s hs t ht) (fun o ho => hapO o ho t ht), inWindow_holds lo c v t.p hpn]

theorem simpleFetch_full (F : Facts) (gs : List QGraph) (c : Clause) (hid : IdAliasPlain c) (lo : QOpts)
    (s : Node) (p : Pred) (o : Obj) (hs : c.s = some s) (hp : c.p = some p) (ho : c.o = some o) :
    ∃ ko, preObj false o = some ko ∧
    simpleFetch F gs c lo 0 = .ok
      (if (fetchWindow lo c).holds p = true then
        gs.flatMap fun q =>
          if q.g.exist { ks := preNode s, pid := p.id, pnano := p.anchor.map (·.nanos), ko := ko } = true
          then [(⟨s, p, o⟩ : Triple)].filterMap (fetchRow c) else []
       else []) := by
  obtain ⟨ko, hko⟩ := preObj_false_some o
  refine ⟨ko, hko, ?_⟩
  unfold simpleFetch
  simp only [hs, hp, ho, hko]
  rw [inTimeBounds_holds]
  by_cases hw : (fetchWindow lo c).holds p = true
  · simp only [hw, Bool.not_true, Bool.false_eq_true, if_false, if_true]
    rw [foldlM_flatMap _ (fun q => if q.g.exist { ks := preNode s, pid := p.id, pnano := p.anchor.map (·.nanos), ko := ko } = true
          then [(⟨s, p, o⟩ : Triple)].filterMap (fetchRow c) else []) gs _ []]
    · simp
    · intro acc q _
      by_cases he : q.g.exist { ks := preNode s, pid := p.id, pnano := p.anchor.map (·.nanos), ko := ko } = true
      · simp only [he, if_true, addTriples_eq c hid, bind, Except.bind, pure, Except.pure]
      · simp only [he, Bool.false_eq_true, if_false, pure, Except.pure, List.append_nil]
  · simp [hw]

theorem consts_tripleEq (c : Clause) (s : Node) (p : Pred) (o : Obj) (hs : c.s = some s) (hp : c.p = some p)
    (ho : c.o = some o) (t : Triple) : constsMatch c t = true ↔ TripleEq ⟨s, p, o⟩ t := by
  unfold constsMatch TripleEq
  simp only [hs, hp, ho, Bool.and_eq_true, beq_iff_eq, and_assoc]

/-- The probe selects by the store's key; its one row comes from the clause's own constants. -/
theorem fullRows_spec (q : QGraph) (hq : Faithful q) (c : Clause) (lo : QOpts)
    (s : Node) (p : Pred) (o : Obj) (hs : c.s = some s) (hp : c.p = some p) (ho : c.o = some o)
    (ko : Bytes) (hko : preObj false o = some ko)
    (hapS : ∀ t ∈ scanOf q, preNode s = preNode t.s → s = t.s)
    (hapO : ∀ t ∈ scanOf q, preObj false o = preObj false t.o → objSame o t.o = true)
    (hapA : ∀ t ∈ scanOf q, (p.anchor.map (·.nanos)).map wrap64 = (t.p.anchor.map (·.nanos)).map wrap64 →
      p.anchor.map (·.nanos) = t.p.anchor.map (·.nanos))
    (hw : (fetchWindow lo c).holds p = true) :
    StandsFor (if q.g.exist { ks := preNode s, pid := p.id, pnano := p.anchor.map (·.nanos), ko := ko } = true
            then [(⟨s, p, o⟩ : Triple)].filterMap (fetchRow c) else [])
      (specRows c (fetchWindow lo c) (scanOf q)) := by
  refine selected_spec q c _ (tight_fetchWindow lo c)
    (fun v => v.key == (preNode s, p.id, (p.anchor.map (·.nanos)).map wrap64, ko)) (fun _ => ⟨s, p, o⟩) _
    (fun r => ?_) (fun v hv t hu => ?_) (fun t => (consts_tripleEq c s p o hs hp ho t).mp)
  · unfold Graph.exist
    constructor
    · intro hr
      split at hr
      · rename_i he
        obtain ⟨v, hv, hk⟩ := List.any_eq_true.mp he
        obtain ⟨t, hu, _⟩ := hq v hv
        exact ⟨v, hv, t, hu, hk, by simpa using hr⟩
      · cases hr
    · rintro ⟨v, hv, t, hu, hk, hf⟩
      rw [if_pos (List.any_eq_true.mpr ⟨v, hv, hk⟩)]
      simp [hf]
  · obtain ⟨hks, hpid, hpn, hkot⟩ := hq.view hv hu
    have ht := mem_scanOf hv hu
    rw [consts_tripleEq c s p o hs hp ho t, beq_iff_eq, TView.key, Prod.mk.injEq, Prod.mk.injEq, Prod.mk.injEq,
      view_subject hks (hapS t ht), view_object hko hkot (hapO t ht), hpid, hpn]
    constructor
    · rintro ⟨e1, k2, k3, e3⟩
      have e2 : predSame p t.p = true := by simp [predSame, k2, hapA t ht k3.symm]
      exact ⟨⟨e1, e2, e3⟩, by rw [← holds_congr _ e2]; exact hw⟩
    · rintro ⟨⟨e1, e2, e3⟩, _⟩
      obtain ⟨p1, p2⟩ := predSame_parts e2
      exact ⟨e1, p1.symm, by rw [p2], e3⟩

/-- C03 `fetch_is_reference_match`. -/
theorem simpleFetch_spec {F : Facts} (hF : Facts.WF F = true) (gs : List QGraph) (hg : GraphsOK F gs)
    (c : Clause) (hid : IdAliasPlain c) (lo : QOpts) (hfil : lo.filter = none)
    (hap : Apart gs c) (hapA : AnchorsApart gs c) :
    ∃ rows, simpleFetch F gs c lo 0 = .ok rows ∧
      StandsFor rows (specRows c (fetchWindow lo c) (gs.flatMap scanOf)) := by
  rw [specRows_flatMap]
  by_cases hfull : c.s.isSome ∧ c.p.isSome ∧ c.o.isSome
  · obtain ⟨h1, h2, h3⟩ := hfull
    obtain ⟨s, hs⟩ := Option.isSome_iff_exists.mp h1
    obtain ⟨p, hp⟩ := Option.isSome_iff_exists.mp h2
    obtain ⟨o, ho⟩ := Option.isSome_iff_exists.mp h3
    obtain ⟨ko, hko, hf⟩ := simpleFetch_full F gs c hid lo s p o hs hp ho
    refine ⟨_, hf, ?_⟩
    by_cases hw : (fetchWindow lo c).holds p = true
    · rw [if_pos hw]
      exact StandsFor.flatMap _ _ _ fun q hq => fullRows_spec q (hg q hq).2 c lo s p o hs hp ho ko hko
        (fun t ht => hap.1 s hs q hq t ht) (fun t ht => hap.2 o ho q hq t ht) (fun t ht => hapA p hp q hq t ht) hw
    · rw [if_neg hw, List.flatMap_eq_nil_iff.mpr fun q _ => specRows_outside c _ p hp (Bool.eq_false_iff.mpr hw) _]
      exact ⟨SetEq.refl [], fun _ h => nomatch h⟩
  · refine ⟨_, simpleFetch_open hF gs (fun q hq => (hg q hq).1) c hid lo hfil hfull, StandsFor.flatMap _ _ _ fun q hq => ?_⟩
    exact graphRows_spec q (hg q hq).2 c lo hfull (fun s hs => hap.1 s hs q hq) (fun o ho => hap.2 o ho q hq)

end BW.Proofs.Planner
