/-
The planner's data access, triple by triple, is the reference's clause match: `tripleToRow` is the left fold of the
reference's binding steps, a delivered batch contributes `filterMap fetchRow`, and inside a `Tight` window the
reference's match is constants ∧ window ∧ not ignored ∧ binding steps (equalities, all three).  Then: all of it respects
`TripleEq`, the same triple up to the zone of its anchors (`fetchRow_congr`), which a triple rebuilt from the clause's
constants is.
-/
import BW.Proofs.Planner.Hypotheses
open BW.Model BW.Spec BW.Proofs.Lists BW.Proofs.ClauseOrder

namespace BW.Proofs.Planner

theorem sameCell_eq (a b : Cell) : sameCell a b = cellSame a b := by
  cases a <;> cases b <;> try rfl
  -- left: nodes, literals, strings, which `sameCell` compares as cells and `cellSame` by their components
  all_goals exact Bool.eq_iff_iff.mpr (by simp [sameCell, cellSame])

theorem bindCell_eq (acc : Option Row) (k : Bytes) (c : Cell) : bindCell acc k c = bindSame acc k c := by
  unfold bindCell bindSame
  simp only [sameCell_eq]
  rfl

theorem bindStep_some (acc : Option Row) (k : Bytes) (c : Cell) : bindStep acc (k, some c) = bindSame acc k c := by
  unfold bindStep bindSame
  by_cases hk : k = []
  · cases acc <;> simp [hk]
  · simp [hk]

theorem guarded_step (r : Row) (k : Bytes) (e : Option Cell) :
    bindStep (some r) (k, e) = if (k ≠ [] && e.isNone) = true then none
      else if k ≠ [] then bindCell (some r) k (e.getD .null) else some r := by
  unfold bindStep
  by_cases hk : k = []
  · simp [hk]
  · cases e <;> simp [hk, bindCell_eq]

theorem anchorCell_eq (opt : Bool) (p : Pred) : anchorCell opt (some p) = extract opt (anchorOf p) := by
  cases p <;> rfl

theorem extract_some (o : Bool) (c : Cell) : extract o (some c) = some c := rfl

theorem extract_false (e : Option Cell) : extract false e = e := by cases e <;> rfl

theorem extract_none (o : Bool) : extract o none = if o = true then some Cell.null else none := rfl

theorem bindSame_none (k : Bytes) (c : Cell) : bindSame none k c = none := rfl

def specBind (c : Clause) (t : Triple) : Option Row := (clauseSteps c t).foldl bindStep (some [])

theorem matchClause_specBind {c : Clause} {w : Window} {t : Triple} {m : Row} (h : matchClause c w t = some m) :
    specBind c t = some m := (matchClause_some h).steps

theorem specBind_get {c : Clause} {t : Triple} {m : Row} (h : specBind c t = some m) {k : Bytes} {v : Cell}
    (hv : m.get k = some v) : ∃ kv ∈ clauseSteps c t, kv.1 = k ∧ k ≠ [] ∧ kv.2 = some v :=
  ((foldl_bindStep_get _ [] m h).1 k v hv).elim (fun h0 => nomatch h0) id

theorem specBind_step {c : Clause} {t : Triple} {m : Row} (h : specBind c t = some m) {k : Bytes} {e : Option Cell}
    (hmem : (k, e) ∈ clauseSteps c t) (hk : k ≠ []) : ∃ v x, e = some x ∧ m.get k = some v ∧ normCell v = normCell x :=
  (foldl_bindStep_get _ [] m h).2.2 (k, e) hmem hk

/-! ### `tripleToRow` is the fold of the binding steps

The Go function is a chain of blocks: some assignments (plain, or guarded by "the extraction applies"), then
`if r == nil { skip }`.  Read from its end, each construct prolongs the list of steps folded over what came before
it: `none` is absorbing for `bindStep`, so an early exit and a late one give the same verdict.  `simp` works from
the innermost block outwards and rewrites a `match` only by a lemma that names the same matcher, hence
`bindCell.match_3` (`match r with | none => _ | some r => _`), `tripleToRow.match_7` (the `Except` of the ID alias)
and `objCell.match_1` (`match t.o with` on all three kinds) in the statements. -/

def verdict (x : Option Row) : T2R :=
  match x with
  | none => .skip
  | some r => .row r

section links

variable (l : List (Bytes × Option Cell))

theorem link_end (x : Option Row) :
    (bindCell.match_3 (fun _ => T2R) x (fun _ => .skip) fun r => .row r) = verdict ([].foldl bindStep x) := by
  cases x <;> rfl

theorem link_match (x : Option Row) :
    (bindCell.match_3 (fun _ => T2R) x (fun _ => .skip) fun r => verdict (l.foldl bindStep (some r))) =
      verdict (l.foldl bindStep x) := by
  cases x with
  | none => rw [foldl_bindStep_none]; rfl
  | some r => rfl

theorem link_step (x : Option Row) (s : Bytes × Option Cell) :
    l.foldl bindStep (bindStep x s) = (s :: l).foldl bindStep x := rfl

theorem link_bind (x : Option Row) (k : Bytes) (v : Cell) :
    l.foldl bindStep (bindCell x k v) = ((k, some v) :: l).foldl bindStep x := by
  rw [List.foldl_cons, bindStep_some, bindCell_eq]

theorem link_guard (r : Row) (k : Bytes) (e : Option Cell) :
    (if (k ≠ [] && e.isNone) = true then T2R.skip
      else verdict (l.foldl bindStep (if k ≠ [] then bindCell (some r) k (e.getD .null) else some r))) =
      verdict (((k, e) :: l).foldl bindStep (some r)) := by
  rw [List.foldl_cons, guarded_step]
  split
  · rw [foldl_bindStep_none]; rfl
  · rfl

theorem link_ok (x : Option Row) (K : Row → T2R) :
    (tripleToRow.match_7 (fun _ => T2R) (.ok x) (fun e => .fail e) (fun _ => .skip) K) =
      bindCell.match_3 (fun _ => T2R) x (fun _ => .skip) K := by
  cases x <;> rfl

end links

theorem idAlias_step (r : Row) (k kb ka : Bytes) (opt : Bool) (o : Obj) (hid : k = [] ∨ (k ≠ kb ∧ k ≠ ka)) :
    (if k = [] then (Except.ok (some r) : Except QErr (Option Row)) else
      objCell.match_1 (fun _ => Except QErr (Option Row)) o
        (fun n => if (k == kb || k == ka) = true then .ok (some (r.set k (.str n.id)))
          else .ok (bindCell (some r) k (.str n.id)))
        (fun p => .ok (bindCell (some r) k (.str p.id)))
        fun _ => if opt = true then .ok (bindCell (some r) k .null) else .ok none) =
    .ok (bindStep (some r)
      (k, extract opt (match o with | .node n => some (.str n.id) | .pred p => some (.str p.id) | _ => none))) := by
  unfold bindStep
  by_cases hk : k = []
  · simp [hk]
  · have hne : (k == kb || k == ka) = false := by simpa [hk] using hid
    cases o <;> cases opt <;> simp [hk, hne, extract, bindCell_eq]

theorem tripleToRow_verdict (t : Triple) (c : Clause) (hid : IdAliasPlain c) : tripleToRow t c = verdict (specBind c t) := by
  unfold tripleToRow specBind clauseSteps
  simp only [link_end, link_match, link_guard, link_bind, idAlias_step _ _ _ _ _ _ hid, link_ok, link_step, anchorCell_eq]
  cases t.o <;> rfl

/-- The row one delivered triple contributes to a fetch: none when empty (`Table.AddRow`). -/
def fetchRow (c : Clause) (t : Triple) : Option Row :=
  (if shouldIgnore t c then none else specBind c t).filter fun r => !r.isEmpty

theorem fetchRow_some {c : Clause} {t : Triple} {m : Row} :
    fetchRow c t = some m ↔ shouldIgnore t c = false ∧ specBind c t = some m ∧ m.isEmpty = false := by
  rw [fetchRow, Option.filter_eq_some_iff]
  cases shouldIgnore t c <;> simp

theorem fetchRow_nodup {c : Clause} {t : Triple} {m : Row} (h : fetchRow c t = some m) : KeysNodup m :=
  foldl_bindStep_nodup (fetchRow_some.mp h).2.1 List.nodup_nil

theorem addTriples_eq (c : Clause) (hid : IdAliasPlain c) (ts : List Triple) :
    addTriples ts c = .ok (ts.filterMap (fetchRow c)) := by
  unfold addTriples
  rw [foldlM_filterMap _ (fetchRow c) _ ts [], List.nil_append]
  intro acc t
  unfold fetchRow
  split
  · rfl
  · rw [tripleToRow_verdict t c hid]
    cases specBind c t with
    | none => rfl
    | some r => cases h : r.isEmpty <;> simp only [verdict, Option.filter, h] <;> rfl

theorem constsMatch_iff (c : Clause) (t : Triple) : constsMatch c t = true ↔
    (∀ s, c.s = some s → s = t.s) ∧ (∀ p, c.p = some p → predSame p t.p = true) ∧
      (∀ o, c.o = some o → objSame o t.o = true) := by
  unfold constsMatch
  rw [Bool.and_eq_true, Bool.and_eq_true, and_assoc]
  refine and_congr ?_ (and_congr ?_ ?_)
  · cases c.s <;> simp
  · cases c.p <;> simp
  · cases c.o <;> simp

theorem predIgnored_eq (id : Bytes) (tmp : Bool) (ab : Bytes) (lo hi : Option Time) (p : Pred) :
    predIgnored id tmp ab lo hi p =
      (decide (p.id ≠ id) || (tmp && decide (ab = []) && p.anchor.isNone) ||
       (decide (ab = []) && tmp && !({ lower := lo.map (·.nanos), upper := hi.map (·.nanos) } : Window).holds p)) := by
  unfold predIgnored
  by_cases hid : p.id = id
  · simp only [hid, ne_eq, not_true_eq_false, if_false, decide_false, Bool.false_or]
    cases p with
    | imm i => simp [Pred.anchor, Window.holds]
    | tmp i ta =>
      rw [Bool.and_comm (decide (ab = [])) tmp]
      cases tmp && decide (ab = []) <;> cases lo <;> cases hi <;>
        simp [Window.holds, Pred.anchor, timeAfter_eq, timeBefore_eq, Bool.not_and]
  · simp [hid]

theorem ite_none_or3 {α : Type} (a b c : Bool) (F : Option α) :
    (if a = true then none else if b = true then none else if c = true then none else F) =
      if (a || b || c) = true then none else F := by
  cases a <;> cases b <;> cases c <;> rfl

/-- `Tight` is needed because `shouldIgnore` tests the clause's own bounds and the reference only the window. -/
theorem matchClause_eq (c : Clause) (w : Window) (t : Triple) (ht : Tight c w) :
    matchClause c w t =
      if (constsMatch c t && w.holds t.p) = true then (if shouldIgnore t c = true then none else specBind c t) else none := by
  unfold matchClause shouldIgnore specBind
  cases hc : constsMatch c t
  · rfl
  cases hw : w.holds t.p
  · simp
  simp only [predIgnored_eq, tight_holds ht hw, Bool.not_true, Bool.and_false, Bool.or_false, Bool.and_or_distrib_left,
    ← Bool.and_assoc, Bool.false_eq_true, if_false, Bool.and_self, if_true]
  exact ite_none_or3 _ _ _ _

theorem matchClause_some_iff (c : Clause) (w : Window) (t : Triple) (ht : Tight c w) (m : Row) :
    matchClause c w t = some m ↔
      (constsMatch c t = true ∧ w.holds t.p = true ∧ shouldIgnore t c = false ∧ specBind c t = some m) := by
  rw [matchClause_eq c w t ht]
  by_cases hc : constsMatch c t = true <;> by_cases hw : w.holds t.p = true <;>
    by_cases hi : shouldIgnore t c = true <;> simp [hc, hw, hi]

abbrev ORel : Option Row → Option Row → Prop := Option.Rel RowEq

theorem ORel.of_some {a b : Option Row} (h : ORel a b) {r : Row} (ha : a = some r) : ∃ r', b = some r' ∧ RowEq r r' := by
  cases h with
  | none => cases ha
  | some h => cases ha; exact ⟨_, rfl, h⟩

theorem ORel.symm {a b : Option Row} (h : ORel a b) : ORel b a := by
  cases h with
  | none => exact .none
  | some h => exact .some h.symm

theorem bindSame_congr (acc acc' : Option Row) (k : Bytes) (c c' : Cell) (h : ORel acc acc')
    (hc : normCell c = normCell c') : ORel (bindSame acc k c) (bindSame acc' k c') := by
  cases h with
  | none => exact .none
  | @some r r' h =>
    rw [bindSame_some, bindSame_some]
    split
    · exact .some h
    · have hsame : (r.get k).all (cellSame · c) = (r'.get k).all (cellSame · c') := by
        have := h k
        cases hg : r.get k <;> cases hg' : r'.get k <;> simp [hg, hg'] at this ⊢
        rw [Bool.eq_iff_iff, cellSame_iff, cellSame_iff, this, hc]
      rw [hsame]
      split
      · refine .some fun k' => ?_
        rw [get_set, get_set]
        split
        · simp [hc]
        · exact h k'
      · exact .none

theorem bindStep_congr (acc acc' : Option Row) (k : Bytes) (e e' : Option Cell) (h : ORel acc acc')
    (he : e.map normCell = e'.map normCell) : ORel (bindStep acc (k, e)) (bindStep acc' (k, e')) := by
  unfold bindStep
  split
  · exact h
  · cases e <;> cases e' <;> simp at he
    · exact .none
    · exact bindSame_congr acc acc' k _ _ h he

def TripleEq (t t' : Triple) : Prop := t.s = t'.s ∧ predSame t.p t'.p = true ∧ objSame t.o t'.o = true

theorem predSame_parts {p p' : Pred} (h : predSame p p' = true) :
    p.id = p'.id ∧ p.anchor.map (·.nanos) = p'.anchor.map (·.nanos) := by
  simpa [predSame] using h

theorem objSame_inv {o o' : Obj} (h : objSame o o' = true) :
    o = o' ∨ ∃ p p', o = .pred p ∧ o' = .pred p' ∧ predSame p p' = true := by
  cases o <;> cases o' <;> simp only [objSame, beq_iff_eq, Bool.false_eq_true] at h
  · exact .inl (congrArg _ h)
  · exact .inr ⟨_, _, rfl, rfl, h⟩
  · exact .inl (congrArg _ h)

theorem TripleEq.refl (t : Triple) : TripleEq t t :=
  ⟨rfl, (cellSame_iff (.pred t.p) (.pred t.p)).mpr rfl, objSame_cell t.o t.o ▸ (cellSame_iff _ _).mpr rfl⟩

theorem anchorOf_congr {p p' : Pred} (h : predSame p p' = true) :
    (anchorOf p).map normCell = (anchorOf p').map normCell := by
  have ⟨_, h2⟩ := predSame_parts h
  cases p <;> cases p' <;> simp [Pred.anchor] at h2 <;> simp [anchorOf, normCell, h2]

theorem extract_congr (o : Bool) (e e' : Option Cell) (h : e.map normCell = e'.map normCell) :
    (extract o e).map normCell = (extract o e').map normCell := by
  cases e <;> cases e' <;> simp [extract] at h ⊢
  exact h

def nstep (s : Bytes × Option Cell) : Bytes × Option Cell := (s.1, s.2.map normCell)

theorem foldl_bindStep_congr {l l' : List (Bytes × Option Cell)} (hl : l.map nstep = l'.map nstep)
    {acc acc' : Option Row} (h : ORel acc acc') : ORel (l.foldl bindStep acc) (l'.foldl bindStep acc') := by
  induction l generalizing l' acc acc' with
  | nil => cases l' with
    | nil => exact h
    | cons _ _ => cases hl
  | cons s l ih => cases l' with
    | nil => cases hl
    | cons s' l' =>
      obtain ⟨k, e⟩ := s
      obtain ⟨k', e'⟩ := s'
      obtain ⟨hs, hl'⟩ := List.cons.inj hl
      obtain ⟨hk, he⟩ := Prod.mk.inj hs
      cases hk
      exact ih hl' (bindStep_congr _ _ k e e' h he)

theorem clauseSteps_congr (c : Clause) {t t' : Triple} (h : TripleEq t t') :
    (clauseSteps c t).map nstep = (clauseSteps c t').map nstep := by
  obtain ⟨hs, hp, ho⟩ := h
  have cell : ∀ {p p' : Pred}, predSame p p' = true → normCell (.pred p) = normCell (.pred p') := fun h =>
    (cellSame_iff _ _).mp h
  have hpa := extract_congr c.optional _ _ (anchorOf_congr hp)
  unfold clauseSteps
  rw [hs, (predSame_parts hp).1]
  rcases objSame_inv ho with e | ⟨p, p', e, e', hpp⟩
  · simp only [e, List.map_cons, nstep, Option.map_some, cell hp, hpa]
  · simp only [e, e', List.map_cons, nstep, Option.map_some, cell hp, hpa, objCell, cell hpp,
      extract_congr c.optional _ _ (anchorOf_congr hpp), (predSame_parts hpp).1]

theorem specBind_congr (c : Clause) (t t' : Triple) (h : TripleEq t t') : ORel (specBind c t) (specBind c t') :=
  foldl_bindStep_congr (clauseSteps_congr c h) (.some (RowEq.refl []))

theorem holds_congr (w : Window) {p p' : Pred} (h : predSame p p' = true) : w.holds p = w.holds p' := by
  have ⟨_, h2⟩ := predSame_parts h
  cases p <;> cases p' <;> simp [Pred.anchor] at h2 <;> simp [Window.holds, h2]

theorem predIgnored_congr (id : Bytes) (tmp : Bool) (ab : Bytes) (lo hi : Option Time) {p p' : Pred}
    (h : predSame p p' = true) : predIgnored id tmp ab lo hi p = predIgnored id tmp ab lo hi p' := by
  have ⟨h1, h2⟩ := predSame_parts h
  have h3 : p.anchor.isNone = p'.anchor.isNone := by simpa using congrArg Option.isNone h2
  rw [predIgnored_eq, predIgnored_eq, holds_congr _ h, h1, h3]

theorem shouldIgnore_congr (c : Clause) {t t' : Triple} (h : TripleEq t t') : shouldIgnore t c = shouldIgnore t' c := by
  obtain ⟨_, hp, ho⟩ := h
  unfold shouldIgnore
  rw [predIgnored_congr _ _ _ _ _ hp]
  rcases objSame_inv ho with e | ⟨p, p', e, e', hpp⟩
  · rw [e]
  · simp only [e, e', predIgnored_congr _ _ _ _ _ hpp]

theorem fetchRow_congr (c : Clause) {t t' : Triple} (h : TripleEq t t') :
    ORel (fetchRow c t) (fetchRow c t') := by
  unfold fetchRow
  rw [shouldIgnore_congr c h]
  split
  · exact .none
  · have hb := specBind_congr c t t' h
    generalize specBind c t = a, specBind c t' = b at hb ⊢
    cases hb with
    | none => exact .none
    | some hr =>
      simp only [Option.filter, rowEq_isEmpty hr]
      split
      · exact .some hr
      · exact .none

end BW.Proofs.Planner
