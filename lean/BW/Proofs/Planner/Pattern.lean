/-
C03, assembled: whatever strategy `processClause` picks it leaves `StepOK`; so, clause after clause with `TblOK` as the
loop invariant, `processGraphPattern` computes the reference's solutions.
-/
import BW.Proofs.Planner.Strategies
open BW.Model BW.Spec BW.Proofs.ClauseOrder BW.Proofs.Store
open BW.Proofs.Lists (bind_eq_ok foldl_fixed)
open BW.Proofs.Query (processClause_inv)

namespace BW.Proofs.Planner

variable {gs : List QGraph}

/-- C03 `one_clause_is_one_join`. -/
theorem processClause_spec {F : Facts} {U : Universe gs} (hf : FetchOK F gs U)
    {tbl tbl' : Tbl} {unres : Bool} (ht : TblOK U tbl) {c : Clause} {lo : QOpts} (hc : PatClause U c)
    (hfil : lo.filter = none) (hfirst : tbl.bindings = [] → c.optional = false ∧ c.extractsNothing = false)
    (h : processClause F gs tbl c lo 0 = .ok (tbl', unres)) : StepOK U lo tbl c tbl' unres := by
  -- a clause without names is not the first, which extracts something
  have hB : c.bindings = [] → tbl.bindings ≠ [] := fun hb hb0 =>
    nomatch (extractsNothing_of_bindings_nil hb).symm.trans (hfirst hb0).2
  rcases processClause_inv h with ⟨s, p, o, hs, hp, ho, ha, rfl, hu⟩ | ⟨hb, rfl, hu⟩ |
    ⟨hbne, h3, rfl, fetched, hfe, hop⟩ | ⟨_, h3, rfl, out, hsa, rfl⟩
  · -- three constants, no alias: existence test
    obtain ⟨hb, hpid, hoid⟩ := threeConsts_names hc.consts (by rw [hs]; rfl) (by rw [hp]; rfl) (by rw [ho]; rfl) ha
    obtain ⟨ko, hko⟩ := preObj_false_some o
    have hexs := threeConsts_exists hf hc.inU hfil (extractsNothing_of_bindings_nil hb) hpid hoid s p o hs hp ho ko hko
    rw [hko, Option.map_some, Option.getD_some, inTimeBounds_holds, hexs, Bool.not_not] at hu
    exact keep_table ht (hB hb) lo hb hu
  · -- binds nothing: probe
    refine keep_table ht (hB hb) lo hb ?_
    rcases hu with ⟨hopt, rfl⟩ | ⟨hopt, rows, hfe, rfl⟩
    · rw [hopt]; rfl
    · rw [hopt, probe_fetch hf hc.inU hfil (extractsNothing_of_bindings_nil hb) hfe]; rfl
  · -- no shared binding: fetch once
    exact fetchOnce_table hf ht hc hfil (fun hB => (hfirst hB).1) hbne (existing_empty h3) hfe hop
  · -- shared bindings: row by row
    have hB : tbl.bindings ≠ [] := fun hb0 => by simp [Tbl.hasBinding, hb0] at h3
    exact specify_table hf ht hB hc.wf hc.inU hfil out hsa

/-- The loop.  A table without bindings cannot hold the empty assignment (D35), so the clause it meets has to be
    mandatory and to extract something. -/
theorem go_spec {F : Facts} {U : Universe gs} (hf : FetchOK F gs U) (lo : QOpts) :
    ∀ (cs : List Clause), (∀ c ∈ cs, PatClause U c) → ∀ (tbl out : Tbl), TblOK U tbl →
      (tbl.bindings = [] → ∃ c0 ∈ cs.head?, c0.optional = false ∧ c0.extractsNothing = false) →
      processPattern.go F gs lo 0 (fun _ => none) tbl cs = .ok out →
      SetEq out.rows (cs.foldl (joinClauseO (gs.flatMap scanOf) (nl lo.lower) (nl lo.upper)) (absRows tbl)) := by
  intro cs
  induction cs with
  | nil =>
    intro _ tbl out _ hB h
    simp only [processPattern.go, Except.ok.injEq] at h
    subst h
    rw [absRows_of_ne fun hb => by obtain ⟨_, h, _⟩ := hB hb; cases h]
    exact SetEq.refl _
  | cons c cs ih =>
    intro hcs tbl out ht hB h
    have hc := hcs c List.mem_cons_self
    rw [processPattern.go] at h
    obtain ⟨⟨t, unres⟩, hp, h⟩ := bind_eq_ok.mp h
    obtain ⟨a1, a2, a3, a4⟩ := processClause_spec hf ht hc (lo := { lo with filter := none }) rfl
      (fun hb => by obtain ⟨c0, h0, h⟩ := hB hb; cases h0; exact h) hp
    rw [List.foldl_cons]
    cases unres with
    | true =>
      cases h
      rw [show joinClauseO _ (nl lo.lower) (nl lo.upper) (absRows tbl) c = [] from a4 rfl,
        foldl_fixed (s := []) cs fun _ _ => rfl]
      exact SetEq.refl _
    | false =>
      exact (ih (fun c' hc' => hcs c' (List.mem_cons_of_mem _ hc')) t out a1 (fun hb => absurd hb a2) h).trans
        (foldl_join_setEq U _ _ cs (fun r hr => (absRows_ok a1 r hr).1)
          (fun x hx => (joinClauseO_rows U _ _ c (fun r hr => (absRows_ok ht r hr).1) x hx).1) (a3 rfl))

theorem tblOK_empty (U : Universe gs) : TblOK U {} :=
  ⟨fun _ h => (nomatch h), fun _ h => (nomatch h), fun _ => rfl⟩

/-- C03 `select_pattern_eq_solutions`, whose docstring spells the hypotheses out. -/
theorem processPattern_spec {F : Facts} (hF : Facts.WF F = true) (hg : GraphsOK F gs) (U : Universe gs) {lo : QOpts}
    {c0 : Clause} {cs : List Clause} (hpc : ∀ c ∈ c0 :: cs, PatClause U c)
    (hopt : c0.optional = false) (hex : c0.extractsNothing = false) {out : Tbl}
    (h : processPattern F gs (c0 :: cs) lo 0 (fun _ => none) = .ok out) :
    SetEq out.rows (solutionsO (gs.flatMap scanOf) (nl lo.lower) (nl lo.upper) (c0 :: cs)) :=
  go_spec (fetchOK hF hg U) lo (c0 :: cs) hpc {} out (tblOK_empty U) (fun _ => ⟨c0, rfl, hopt, hex⟩) h

theorem processPattern_spec_plain {F : Facts} (hF : Facts.WF F = true) (hg : GraphsOK F gs) (U : Universe gs) {lo : QOpts}
    {c0 : Clause} {cs : List Clause} (hpc : ∀ c ∈ c0 :: cs, PatClause U c) (hno : ∀ c ∈ c0 :: cs, NoObjAliases c)
    (hopt : c0.optional = false) (hex : c0.extractsNothing = false) {out : Tbl}
    (h : processPattern F gs (c0 :: cs) lo 0 (fun _ => none) = .ok out) :
    SetEq out.rows (solutions (gs.flatMap scanOf) (nl lo.lower) (nl lo.upper) (c0 :: cs)) :=
  solutionsO_eq _ _ _ _ hno ▸ processPattern_spec hF hg U hpc hopt hex h

end BW.Proofs.Planner
