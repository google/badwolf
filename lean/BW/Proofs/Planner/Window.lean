/-
Time windows.  Every window the model or the reference computes is given as a term of `olo` (join of optional lower
bounds) and `ohi` (meet of upper bounds), so that comparing two windows is a computation with their laws.
`Tight c w` holds of every window the reference computes for `c` (`tight_clauseWindow`); what a window admits is read
off it as a closed interval (`holds_iff`).
-/
import BW.Spec.Query
open BW.Model BW.Spec

namespace BW.Proofs.Planner

def olo : Option Int → Option Int → Option Int
  | some x, some y => some (max x y)
  | some x, none => some x
  | none, b => b

def ohi : Option Int → Option Int → Option Int
  | some x, some y => some (min x y)
  | some x, none => some x
  | none, b => b

theorem olo_eq : olo = Option.merge max := by
  funext a b; cases a <;> cases b <;> rfl

theorem ohi_eq : ohi = Option.merge min := by
  funext a b; cases a <;> cases b <;> rfl

theorem olo_comm (a b : Option Int) : olo a b = olo b a := olo_eq ▸ Std.Commutative.comm a b

theorem olo_assoc (a b c : Option Int) : olo (olo a b) c = olo a (olo b c) := olo_eq ▸ Std.Associative.assoc a b c

theorem olo_idem (a : Option Int) : olo a a = a := olo_eq ▸ Std.IdempotentOp.idempotent a

theorem olo_left_idem (a b : Option Int) : olo a (olo a b) = olo a b := by rw [← olo_assoc, olo_idem]

theorem olo_none_left (b : Option Int) : olo none b = b := rfl

theorem olo_none (a : Option Int) : olo a none = a := by cases a <;> rfl

theorem ohi_comm (a b : Option Int) : ohi a b = ohi b a := ohi_eq ▸ Std.Commutative.comm a b

theorem ohi_assoc (a b c : Option Int) : ohi (ohi a b) c = ohi a (ohi b c) := ohi_eq ▸ Std.Associative.assoc a b c

theorem ohi_idem (a : Option Int) : ohi a a = a := ohi_eq ▸ Std.IdempotentOp.idempotent a

theorem ohi_left_idem (a b : Option Int) : ohi a (ohi a b) = ohi a b := by rw [← ohi_assoc, ohi_idem]

theorem ohi_none_left (b : Option Int) : ohi none b = b := rfl

theorem ohi_none (a : Option Int) : ohi a none = a := by cases a <;> rfl

theorem olo_absorb (p a l : Option Int) : olo p (olo a (olo p l)) = olo a (olo p l) := by
  rw [← olo_assoc, olo_comm p a, olo_assoc, olo_left_idem]

theorem ohi_absorb (p a l : Option Int) : ohi p (ohi a (ohi p l)) = ohi a (ohi p l) := by
  rw [← ohi_assoc, ohi_comm p a, ohi_assoc, ohi_left_idem]

theorem le_olo (a : Option Int) (x : Int) : ∃ y, olo a (some x) = some y ∧ x ≤ y := by
  cases a with
  | none => exact ⟨x, rfl, Int.le_refl x⟩
  | some a => exact ⟨max a x, rfl, by omega⟩

theorem ohi_le (a : Option Int) (x : Int) : ∃ y, ohi a (some x) = some y ∧ y ≤ x := by
  cases a with
  | none => exact ⟨x, rfl, Int.le_refl x⟩
  | some a => exact ⟨min a x, rfl, by omega⟩

theorem timeAfter_eq (a b : Time) : timeAfter a b = !decide (a.nanos ≤ b.nanos) := by
  rw [← decide_not]; simp only [timeAfter, Int.not_le, gt_iff_lt]

theorem timeBefore_eq (a b : Time) : timeBefore a b = !decide (b.nanos ≤ a.nanos) := by
  rw [← decide_not]; simp only [timeBefore, Int.not_le]

theorem window_ext {w w' : Window} (h1 : w.lower = w'.lower) (h2 : w.upper = w'.upper) : w = w' := by
  cases w; cases w'; simp at h1 h2; simp [h1, h2]

theorem tightenLower_eq (w : Window) (l : Option Int) : (w.tightenLower l).lower = olo l w.lower := by
  cases l <;> cases h : w.lower <;> simp [Window.tightenLower, olo, h]

theorem tightenUpper_eq (w : Window) (u : Option Int) : (w.tightenUpper u).upper = ohi u w.upper := by
  cases u <;> cases h : w.upper <;> simp [Window.tightenUpper, ohi, h]

theorem tightenUpper_lower (w : Window) (u : Option Int) : (w.tightenUpper u).lower = w.lower := by
  cases u <;> cases h : w.upper <;> simp [Window.tightenUpper, h]

theorem tightenLower_upper (w : Window) (l : Option Int) : (w.tightenLower l).upper = w.upper := by
  cases l <;> cases h : w.lower <;> simp [Window.tightenLower, h]

/-- A bound of the model (an optional time) as a bound of the reference (an optional instant). -/
def nl (t : Option Time) : Option Int := t.map (·.nanos)

theorem nl_later (t g : Time) : nl (if timeAfter t g = true then some t else some g) = some (max t.nanos g.nanos) := by
  unfold timeAfter nl; split <;> rename_i h <;> simp at h ⊢ <;> omega

theorem nl_earlier (t g : Time) : nl (if timeBefore t g = true then some t else some g) = some (min t.nanos g.nanos) := by
  unfold timeBefore nl; split <;> rename_i h <;> simp at h ⊢ <;> omega

theorem updateTimeBounds_lower (lo : QOpts) (c : Clause) :
    nl (updateTimeBounds lo c).lower = olo (nl c.pLower) (nl lo.lower) := by
  unfold updateTimeBounds
  cases c.pLower <;> cases lo.lower <;> first | rfl | exact nl_later _ _

theorem updateTimeBounds_upper (lo : QOpts) (c : Clause) :
    nl (updateTimeBounds lo c).upper = ohi (nl c.pUpper) (nl lo.upper) := by
  unfold updateTimeBounds
  cases c.pUpper <;> cases lo.upper <;> first | rfl | exact nl_earlier _ _

theorem updateTimeBounds_filter (lo : QOpts) (c : Clause) : (updateTimeBounds lo c).filter = lo.filter := rfl

/-- The instant the row gives a bound alias; none for the alias that is not there. -/
def aliasBound (a : Bytes) (r : Row) : Option Int := if a ≠ [] then rowTime r a else none

theorem aliasBound_nil (a : Bytes) : aliasBound a [] = none := by unfold aliasBound; split <;> rfl

theorem clauseWindow_closed (glo ghi : Option Int) (c : Clause) (r : Row) :
    clauseWindow glo ghi c r =
      { lower := olo (aliasBound c.pLowerAlias r) (olo (nl c.pLower) glo),
        upper := ohi (aliasBound c.pUpperAlias r) (ohi (nl c.pUpper) ghi) } := by
  unfold clauseWindow aliasBound nl
  split <;> split <;> refine window_ext ?_ ?_ <;>
    simp only [tightenLower_eq, tightenUpper_eq, tightenUpper_lower, tightenLower_upper, olo_none_left, ohi_none_left]

/-- The window of a fetch: no row yet. -/
def fetchWindow (lo : QOpts) (c : Clause) : Window :=
  clauseWindow (lo.lower.map (·.nanos)) (lo.upper.map (·.nanos)) c []

theorem fetchWindow_eq (lo : QOpts) (c : Clause) : fetchWindow lo c = clauseWindow (nl lo.lower) (nl lo.upper) c [] := rfl

theorem fetchWindow_closed (lo : QOpts) (c : Clause) :
    fetchWindow lo c = { lower := olo (nl c.pLower) (nl lo.lower), upper := ohi (nl c.pUpper) (nl lo.upper) } := by
  rw [fetchWindow, clauseWindow_closed, aliasBound_nil, aliasBound_nil]
  rfl

theorem fetchWindow_bounds (lo : QOpts) (c : Clause) :
    fetchWindow lo c = { lower := nl (updateTimeBounds lo c).lower, upper := nl (updateTimeBounds lo c).upper } := by
  rw [fetchWindow_closed, updateTimeBounds_lower, updateTimeBounds_upper]

theorem inTimeBounds_holds (lo : QOpts) (c : Clause) (p : Pred) :
    inTimeBounds p (updateTimeBounds lo c) = (fetchWindow lo c).holds p := by
  rw [fetchWindow_bounds]
  unfold inTimeBounds Window.holds
  cases p with
  | imm i => rfl
  | tmp i t =>
    cases (updateTimeBounds lo c).lower <;> cases (updateTimeBounds lo c).upper <;>
      simp [nl, timeBefore_eq, timeAfter_eq]

/-- C03 `window_closed`. -/
theorem holds_iff (w : Window) (p : Pred) :
    w.holds p = true ↔ (p.anchor = none ∨ ∃ t, p.anchor = some t ∧ (∀ l, w.lower = some l → l ≤ t.nanos) ∧ (∀ u, w.upper = some u → t.nanos ≤ u)) := by
  cases p with
  | imm i => exact ⟨fun _ => .inl rfl, fun _ => rfl⟩
  | tmp i t =>
    simp only [Window.holds, Pred.anchor, Bool.and_eq_true, reduceCtorEq, false_or, Option.some.injEq, exists_eq_left']
    exact and_congr (by cases w.lower <;> simp) (by cases w.upper <;> simp)

/-- The window lies inside the clause's own predicate bounds, so testing those inside it is redundant. -/
def Tight (c : Clause) (w : Window) : Prop :=
  (∀ l, c.pLower = some l → ∃ wl, w.lower = some wl ∧ l.nanos ≤ wl) ∧
  (∀ u, c.pUpper = some u → ∃ wu, w.upper = some wu ∧ wu ≤ u.nanos)

theorem tight_clauseWindow (glo ghi : Option Int) (c : Clause) (r : Row) : Tight c (clauseWindow glo ghi c r) := by
  rw [Tight, clauseWindow_closed]
  constructor
  · intro l hl
    rw [olo_comm (nl c.pLower), ← olo_assoc, hl]
    exact le_olo _ _
  · intro u hu
    rw [ohi_comm (nl c.pUpper), ← ohi_assoc, hu]
    exact ohi_le _ _

theorem tight_fetchWindow (lo : QOpts) (c : Clause) : Tight c (fetchWindow lo c) := tight_clauseWindow _ _ c []

theorem tight_holds {c : Clause} {w : Window} (ht : Tight c w) {p : Pred} (hw : w.holds p = true) :
    ({ lower := c.pLower.map (·.nanos), upper := c.pUpper.map (·.nanos) } : Window).holds p = true := by
  rw [holds_iff] at hw ⊢
  refine hw.imp_right fun ⟨t, e, hl, hu⟩ => ⟨t, e, fun l hl' => ?_, fun u hu' => ?_⟩
  · obtain ⟨l0, e0, rfl⟩ := Option.map_eq_some_iff.mp hl'
    obtain ⟨wl, hwl, hle⟩ := ht.1 l0 e0
    exact Int.le_trans hle (hl wl hwl)
  · obtain ⟨u0, e0, rfl⟩ := Option.map_eq_some_iff.mp hu'
    obtain ⟨wu, hwu, hle⟩ := ht.2 u0 e0
    exact Int.le_trans (hu wu hwu) hle

end BW.Proofs.Planner
