/-
Clauses whose object predicate is bounded by bindings (`?s ?p "id"@[?lo,?hi]`; the pinned tree never read those
bounds: 1eb6e97).  On a row for which it succeeds `addSpecifiedData` does with such a clause what it does with the
clause that row sees (`rowClause`), and so does `joinClauseO`: the per-row theorem carries over, and all rows together
are one join step.
-/
import BW.Proofs.Planner.PerRow
open BW.Model BW.Spec BW.Proofs.ClauseOrder
open BW.Proofs.Query (existsAlias specifyAll_cons)

namespace BW.Proofs.Planner

variable {gs : List QGraph}

-- The five steps of `specialise` neither read nor write the object's interval: unfolded, both sides are the same case
-- split.
theorem spS_setO (r : Row) (c : Clause) (lo hi la ua) : spS r (setO lo hi la ua c) = setO lo hi la ua (spS r c) := by
  unfold spS setO
  dsimp only
  split
  · split <;> rfl
  · rfl

theorem spPA_setO (r : Row) (c : Clause) (lo hi la ua) : spPA r (setO lo hi la ua c) = setO lo hi la ua (spPA r c) := by
  unfold spPA setO
  dsimp only
  split
  · split <;> rfl
  · rfl

theorem spP_setO (r : Row) (c : Clause) (lo hi la ua) : spP r (setO lo hi la ua c) = setO lo hi la ua (spP r c) := by
  unfold spP setO
  dsimp only
  split <;> rfl

theorem spOA_setO (r : Row) (c : Clause) (lo hi la ua) : spOA r (setO lo hi la ua c) = setO lo hi la ua (spOA r c) := by
  unfold spOA setO
  dsimp only
  split
  · split <;> rfl
  · rfl

theorem spO_setO (r : Row) (c : Clause) (lo hi la ua) : spO r (setO lo hi la ua c) = setO lo hi la ua (spO r c) := by
  unfold spO setO
  dsimp only
  split <;> rfl

theorem boundsForRow_setO (q : QOpts) (r : Row) (c : Clause) (lo hi la ua) :
    boundsForRow q (setO lo hi la ua c) r = boundsForRow q c r := rfl

theorem specialise_setO (r : Row) (c : Clause) (q : QOpts) (lo hi la ua) :
    specialise r (setO lo hi la ua c) q =
      match specialise r c q with
      | .error e => .error e
      | .ok (c', q') => .ok (setO lo hi la ua c', q') := by
  unfold specialise
  simp only [spS_setO, spPA_setO, spP_setO, boundsForRow_setO]
  have e1 : ∀ x : Clause, (setO lo hi la ua x).p = x.p := fun _ => rfl
  have e2 : ∀ x : Clause, (setO lo hi la ua x).o = x.o := fun _ => rfl
  simp only [e1]
  -- second half, for any intermediate clause
  have second : ∀ (c3 : Clause) (q3 : QOpts),
      (if (spOA r (setO lo hi la ua c3)).o.isNone then
        match boundsForRow q3 (spO r (spOA r (setO lo hi la ua c3))) r with
        | .ok lo' => Except.ok (spO r (spOA r (setO lo hi la ua c3)), lo')
        | .error e => .error e
      else .ok (spOA r (setO lo hi la ua c3), q3)) =
      (match (if (spOA r c3).o.isNone then
          match boundsForRow q3 (spO r (spOA r c3)) r with
          | .ok lo' => Except.ok (spO r (spOA r c3), lo')
          | .error e => .error e
        else .ok (spOA r c3, q3)) with
       | .error e => Except.error e
       | .ok (c', q') => .ok (setO lo hi la ua c', q')) := by
    intro c3 q3
    simp only [spOA_setO, spO_setO, e2, boundsForRow_setO]
    by_cases ho : (spOA r c3).o.isNone = true
    · simp only [ho, if_true]
      cases boundsForRow q3 (spO r (spOA r c3)) r <;> rfl
    · simp only [ho, Bool.false_eq_true, if_false]
  by_cases hp : (spPA r (spS r c)).p.isNone = true
  · simp only [hp, if_true]
    cases hb : boundsForRow q (spP r (spPA r (spS r c))) r with
    | error e => rfl
    | ok q1 => exact second _ _
  · simp only [hp, Bool.false_eq_true, if_false]
    exact second _ _

/-- The reference's `withRowObjBounds c r` without the bound aliases, which `matchClause` does not read
    (`matchClause_setO`): a clause of the domain of `addSpecifiedData_spec_plain`. -/
def rowClause (c : Clause) (r : Row) : Clause :=
  setO (rowBound r c.oLowerAlias c.oLower) (rowBound r c.oUpperAlias c.oUpper) [] [] c

theorem objBound_ok {r : Row} {alias : Bytes} {own v : Option Time} (h : objBound r alias own = .ok v) :
    v = rowBound r alias own ∧ (alias ≠ [] → r.has alias = true) := by
  unfold objBound at h
  unfold rowBound rowTimeT
  by_cases ha : alias = []
  · simp only [ha, if_true, Except.ok.injEq] at h
    simp [ha, h]
  · simp only [ha, if_false] at h
    cases hg : r.get alias with
    | none => simp [hg] at h
    | some cell =>
      cases cell <;> simp [hg] at h
      subst h
      exact ⟨by simp [ha], fun _ => has_of_get hg⟩

/-- The bound aliases come last in `GraphClause.Bindings()`, and the row has them. -/
theorem bindings_lacking (c : Clause) (r : Row) (h : HasObjAliases r c) :
    c.bindings.filter (fun k => !r.has k) =
      ({ c with oLowerAlias := [], oUpperAlias := [] } : Clause).bindings.filter (fun k => !r.has k) := by
  have split : ∀ x y : Bytes, ({ c with oLowerAlias := x, oUpperAlias := y } : Clause).bindings =
      dedup (List.filter (· ≠ []) [c.sBinding, c.sAlias, c.sTypeAlias, c.sIDAlias, c.pAlias, c.pAnchorBinding, c.pBinding,
        c.pLowerAlias, c.pUpperAlias, c.pIDAlias, c.pAnchorAlias, c.oBinding, c.oAlias, c.oTypeAlias, c.oIDAlias,
        c.oAnchorAlias, c.oAnchorBinding] ++ List.filter (· ≠ []) [x, y]) := fun x y => by
    unfold Clause.bindings; rw [← List.filter_append]; rfl
  rw [show c.bindings = _ from split c.oLowerAlias c.oUpperAlias, split [] [], dedup_filter_lacking, dedup_filter_lacking]
  · intro k hk; simp at hk
  · intro k hk
    simp only [List.mem_filter, List.mem_cons, List.not_mem_nil, or_false, ne_eq, decide_eq_true_eq] at hk
    rcases hk with ⟨rfl | rfl, hne⟩
    · simp [h.1 hne]
    · simp [h.2 hne]

/-- `addSpecifiedData` after the specialisation, as a function of all it reads of the specialised clause. -/
def tailOf (r : Row) (opt ex : Bool) (bs : List Bytes) (probe fetch : Except QErr (List Row)) : Except QErr (List Row) :=
  if ex then do
    let rows ← probe
    pure (if !rows.isEmpty || opt then [r] else [])
  else do
    let rows ← fetch
    pure (joinRow r opt bs rows)

theorem addSpecifiedData_tail (F : Facts) (gs : List QGraph) (r : Row) (c : Clause) (q : QOpts) :
    addSpecifiedData F gs r c q 0 =
      match specialiseO r c q with
      | .error e => .error e
      | .ok (c', q') => tailOf r c.optional c'.extractsNothing c'.bindings
          (simpleFetch F gs { c' with sAlias := existsAlias } q' 0) (simpleFetch F gs c' q' 0) := by
  unfold addSpecifiedData tailOf
  cases specialiseO r c q with
  | error e => rfl
  | ok p => rfl

theorem tailOf_lacking (r : Row) (opt ex : Bool) (b1 b2 : List Bytes) (probe fetch : Except QErr (List Row))
    (h : b1.filter (fun k => !r.has k) = b2.filter (fun k => !r.has k)) :
    tailOf r opt ex b1 probe fetch = tailOf r opt ex b2 probe fetch := by
  unfold tailOf joinRow
  simp only [h]

/-- The data access does not read the bound aliases of the object's interval: `tripleToRow` and `shouldIgnore` do
    not, by computation, and `simpleFetch` reads the clause through them, its constants and its predicate bounds. -/
theorem simpleFetch_objAliases (F : Facts) (gs : List QGraph) (c : Clause) (la ua : Bytes) (q : QOpts) (n : Int) :
    simpleFetch F gs { c with oLowerAlias := la, oUpperAlias := ua } q n = simpleFetch F gs c q n := by
  have h1 : ∀ t, tripleToRow t { c with oLowerAlias := la, oUpperAlias := ua } = tripleToRow t c := fun _ => rfl
  have h2 : ∀ t, shouldIgnore t { c with oLowerAlias := la, oUpperAlias := ua } = shouldIgnore t c := fun _ => rfl
  have h3 : ∀ ts, addTriples ts { c with oLowerAlias := la, oUpperAlias := ua } = addTriples ts c := fun ts => by
    unfold addTriples; simp only [h1, h2]
  have h4 : updateTimeBounds q { c with oLowerAlias := la, oUpperAlias := ua } = updateTimeBounds q c := rfl
  unfold simpleFetch
  simp only [h3, h4]

/-- C03 `per_row_clause_is_the_clause_the_row_sees`. -/
theorem addSpecifiedData_rowClause (F : Facts) (gs : List QGraph) (r : Row) (c : Clause) (q : QOpts) (out : List Row)
    (h : addSpecifiedData F gs r c q 0 = .ok out) :
    addSpecifiedData F gs r (rowClause c r) q 0 = .ok out ∧ HasObjAliases r c := by
  rw [addSpecifiedData_tail] at h
  unfold specialiseO at h
  cases hs : specialise r c q with
  | error e => simp [hs] at h
  | ok p =>
    obtain ⟨c', q'⟩ := p
    simp only [hs] at h
    have hst := (specialise_specialised hs).strip_eq
    have e1 := strip_proj Clause.oLowerAlias hst
    have e2 := strip_proj Clause.oUpperAlias hst
    have e3 := strip_proj Clause.oLower hst
    have e4 := strip_proj Clause.oUpper hst
    unfold objBoundsForRow at h
    rw [e1, e2, e3, e4] at h
    cases hl : objBound r c.oLowerAlias c.oLower with
    | error e => simp [hl] at h
    | ok lo =>
      cases hu : objBound r c.oUpperAlias c.oUpper with
      | error e => simp [hl, hu] at h
      | ok hi =>
        simp only [hl, hu] at h
        obtain ⟨el, hasl⟩ := objBound_ok hl
        obtain ⟨eu, hasu⟩ := objBound_ok hu
        refine ⟨?_, hasl, hasu⟩
        have hs2 : specialise r (rowClause c r) q = .ok (setO lo hi [] [] c', q') := by
          unfold rowClause
          rw [specialise_setO, hs, ← el, ← eu]
        rw [addSpecifiedData_tail]
        unfold specialiseO
        simp only [hs2, objBoundsForRow_plain (c := setO lo hi [] [] c') ⟨rfl, rfl⟩]
        -- the tail reads the clause through the data access, which ignores the bound aliases, and through the names the
        -- row lacks, among which they are not
        rw [← e1, ← e2] at h
        rw [← simpleFetch_objAliases F gs { c' with oLower := lo, oUpper := hi } [] []] at h
        rw [← simpleFetch_objAliases F gs { ({ c' with oLower := lo, oUpper := hi } : Clause) with
          sAlias := existsAlias } [] []] at h
        rw [tailOf_lacking r _ _ _ _ _ _ (bindings_lacking { c' with oLower := lo, oUpper := hi } r
          ⟨by rw [e1]; exact hasl, by rw [e2]; exact hasu⟩)] at h
        exact h

theorem specJoinO_rowClause (scan : List Triple) (glo ghi : Option Int) (c : Clause) (r : Row) (h : HasObjAliases r c) :
    specJoinO scan glo ghi c r = specJoinO scan glo ghi (rowClause c r) r := by
  have hb : c.bindings.filter (fun k => !r.has k) = (rowClause c r).bindings.filter (fun k => !r.has k) :=
    bindings_lacking c r h
  unfold specJoinO
  rw [withRowObjBounds_eq, hb, matchClause_setO c _ _ [] [] rfl rfl]
  rfl

theorem addSpecifiedData_spec {F : Facts} {U : Universe gs} (hf : FetchOK F gs U)
    {c : Clause} {lo : QOpts} {r : Row} (hr : RowOK U r) (hwf : ClauseWF c) (hcin : ClauseIn U c)
    (hfil : lo.filter = none) (out : List Row) (h : addSpecifiedData F gs r c lo 0 = .ok out) :
    StandsFor out (specJoinO (gs.flatMap scanOf) (nl lo.lower) (nl lo.upper) c r) := by
  obtain ⟨h', ha⟩ := addSpecifiedData_rowClause F gs r c lo out h
  rw [specJoinO_rowClause _ _ _ c r ha]
  exact addSpecifiedData_spec_plain (c := rowClause c r) hf hr ⟨hwf.idAlias, hwf.alias⟩ ⟨rfl, rfl⟩ hcin hfil out h'

/-- C03 `per_row_strategy_is_join`. -/
theorem specifyAll_spec {F : Facts} {U : Universe gs} (hf : FetchOK F gs U)
    {c : Clause} {lo : QOpts} (hwf : ClauseWF c) (hcin : ClauseIn U c) (hfil : lo.filter = none)
    (rows out : List Row) (hrs : ∀ r ∈ rows, RowOK U r) (h : specifyAll F gs c lo 0 rows = .ok out) :
    StandsFor out (joinClauseO (gs.flatMap scanOf) (nl lo.lower) (nl lo.upper) rows c) := by
  induction rows generalizing out with
  | nil =>
    simp only [specifyAll, Except.ok.injEq] at h
    subst h
    exact ⟨SetEq.refl _, fun _ h => nomatch h⟩
  | cons r rows ih =>
    obtain ⟨a, b, ha, hb, rfl⟩ := specifyAll_cons h
    exact (addSpecifiedData_spec hf (hrs r List.mem_cons_self) hwf hcin hfil a ha).append
      (ih b (fun x hx => hrs x (List.mem_cons_of_mem _ hx)) hb)

end BW.Proofs.Planner
