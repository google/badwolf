/-
Each strategy of `processClause` leaves `StepOK`.  For a clause that shares no name with the table `AppendTable`,
`DotProduct` and `LeftOptionalJoin` all compute `leftJoin` of every row with the one fetch (`fetchOnce_table`); a clause
without names keeps the table or empties it, the existence test of three constants included (`keep_table`); the per-row
strategy is `specifyAll_spec` (`specify_table`).
-/
import BW.Proofs.Planner.RowClause
open BW.Model BW.Spec BW.Proofs.Lists BW.Proofs.ClauseOrder
open BW.Proofs.Query (existsAlias)

namespace BW.Proofs.Planner

variable {gs : List QGraph}

theorem absRows_of_ne {tbl : Tbl} (h : tbl.bindings ≠ []) : absRows tbl = tbl.rows := by
  unfold absRows; simp [h]

theorem absRows_ok {U : Universe gs} {tbl : Tbl} (ht : TblOK U tbl) :
    ∀ r ∈ absRows tbl, RowOK U r ∧ ∀ k, r.has k = true → k ∈ tbl.bindings := by
  intro r hr
  unfold absRows at hr
  split at hr
  · rw [List.mem_singleton.mp hr]
    exact ⟨⟨List.nodup_nil, fun _ _ h => nomatch h⟩, fun _ h => nomatch h⟩
  · exact ⟨ht.rows r hr, ht.keys r hr⟩

theorem tblOK_step {U : Universe gs} {tbl tbl' : Tbl} (ht : TblOK U tbl) {c : Clause} {lo : QOpts}
    (h : StandsFor tbl'.rows (joinClauseO (gs.flatMap scanOf) (nl lo.lower) (nl lo.upper) (absRows tbl) c))
    (hbs : ∀ k, k ∈ tbl.bindings ∨ k ∈ c.bindings → k ∈ tbl'.bindings) (hany : tbl.bindings ++ c.bindings ≠ []) :
    StepOK U lo tbl c tbl' false := by
  have hne : tbl'.bindings ≠ [] :=
    let ⟨b, hb⟩ := List.exists_mem_of_ne_nil _ hany; List.ne_nil_of_mem (hbs b (List.mem_append.mp hb))
  have href := joinClauseO_rows U (nl lo.lower) (nl lo.upper) c fun r hr => (absRows_ok ht r hr).1
  refine ⟨⟨h.rowOK U fun y hy => (href y hy).1, fun x hx k hk => ?_, fun h => absurd h hne⟩, hne,
    fun _ => by rw [absRows_of_ne hne]; exact h.setEq, fun hh => nomatch hh⟩
  obtain ⟨y, hy, e⟩ := h.setEq.1 x hx
  rw [rowEq_has e] at hk
  exact hbs k (((href y hy).2 k hk).imp_left fun ⟨r, hr, h⟩ => (absRows_ok ht r hr).2 k h)

theorem existing_empty {tbl : Tbl} {c : Clause} (h : (c.bindings.filter tbl.hasBinding).isEmpty = true) :
    ∀ k ∈ c.bindings, k ∉ tbl.bindings :=
  fun k hk hkb => List.filter_eq_nil_iff.mp (List.isEmpty_iff.mp h) k hk (List.contains_iff_mem.mpr hkb)

theorem absRows_lack {U : Universe gs} {tbl : Tbl} (ht : TblOK U tbl) {c : Clause} (hd : ∀ k ∈ c.bindings, k ∉ tbl.bindings) :
    ∀ r ∈ absRows tbl, ∀ k ∈ c.bindings, r.has k = false :=
  fun r hr k hk => Bool.eq_false_iff.mpr fun hh => hd k hk ((absRows_ok ht r hr).2 k hh)

/-- `AppendTable`, `DotProduct`, `LeftOptionalJoin`, as reached from `processClause`, as one operation. -/
theorem fetchOnce_rows {tbl tbl' : Tbl} {c : Clause} {fetched : List Row} (hnone : tbl.bindings = [] → tbl.rows = [])
    (hfirst : tbl.bindings = [] → c.optional = false) (hbne : c.bindings ≠ [])
    (hd : ∀ k ∈ c.bindings, k ∉ tbl.bindings)
    (hcomp : ∀ r ∈ absRows tbl, ∀ m ∈ fetched, compatible r m = true)
    (h : (if !tbl.bindings.isEmpty then
            if c.optional then tbl.leftOptional c.bindings fetched else tbl.dot c.bindings fetched
          else tbl.append c.bindings fetched) = .ok tbl') :
    (∀ k, k ∈ tbl'.bindings ↔ k ∈ tbl.bindings ∨ k ∈ c.bindings) ∧
    tbl'.rows = (absRows tbl).flatMap fun r => leftJoin r c.optional c.bindings fetched := by
  have hj : ∀ r ∈ absRows tbl, leftJoin r c.optional c.bindings fetched =
      if c.optional && fetched.isEmpty then [r.merge (nullRow c.bindings r)] else fetched.map r.merge :=
    fun r hr => leftJoin_of_compatible _ _ (hcomp r hr)
  rw [flatMap_congr _ _ _ hj]
  have hdis : disjointSet tbl.bindings c.bindings = true :=
    List.all_eq_true.mpr fun x hx => by
      cases hcx : c.bindings.contains x with
      | false => rfl
      | true => exact absurd hx (hd x (List.contains_iff_mem.mp hcx))
  by_cases hB : tbl.bindings = []
  · -- the first clause: the fetch becomes the table
    simp only [hB, List.isEmpty_nil, Bool.not_true, Bool.false_eq_true, if_false, Tbl.append, hnone hB, Bool.false_and,
      if_true, List.nil_append, Except.ok.injEq] at h
    subst h
    simp only [absRows, hB, if_true, hfirst hB, Bool.false_and, Bool.false_eq_true, if_false, List.flatMap_cons,
      List.flatMap_nil, List.append_nil, List.not_mem_nil, false_or]
    exact ⟨fun _ => trivial, ((List.map_congr_left fun m _ => merge_nil_left m).trans (List.map_id _)).symm⟩
  · have hBe : tbl.bindings.isEmpty = false := by simpa using hB
    have hss : sameSet tbl.bindings c.bindings = false := by
      obtain ⟨b, hb⟩ := List.exists_mem_of_ne_nil _ hB
      unfold sameSet
      rw [Bool.and_eq_false_iff]
      exact Or.inl (by rw [List.all_eq_false]; exact ⟨b, hb, fun h => hd b (List.contains_iff_mem.mp h) hb⟩)
    have hbe : c.bindings.isEmpty = false := by simpa using hbne
    rw [absRows_of_ne hB]
    simp only [hBe, Bool.not_false, if_true, Tbl.leftOptional, hss, hbe, Bool.or_self, Bool.false_eq_true, if_false, hdis,
      Bool.true_and, Tbl.dot, Bool.not_true] at h
    cases hopt : c.optional <;> cases hfe : fetched.isEmpty <;>
      simp only [hopt, hfe, if_true, if_false, Bool.false_eq_true, Except.ok.injEq] at h <;> subst h <;>
      refine ⟨fun k => by simp only [mem_dedup, List.mem_append], ?_⟩
    -- `dot` is the goal's `flatMap` of `map`s, and so is `leftOptional` when something was fetched …
    · rfl
    · rfl
    · rfl
    -- … OPTIONAL and nothing fetched: `leftOptional` maps the one row with NULLs over the table
    · exact List.map_eq_flatMap

theorem fetchOnce_table {F : Facts} {U : Universe gs} (hf : FetchOK F gs U) {tbl tbl' : Tbl} (ht : TblOK U tbl)
    {c : Clause} {lo : QOpts} (hc : PatClause U c) (hfil : lo.filter = none) (hfirst : tbl.bindings = [] → c.optional = false)
    (hbne : c.bindings ≠ []) (hd : ∀ k ∈ c.bindings, k ∉ tbl.bindings)
    {fetched : List Row} (hfe : simpleFetch F gs c lo 0 = .ok fetched)
    (hop : (if !tbl.bindings.isEmpty then
              if c.optional then tbl.leftOptional c.bindings fetched else tbl.dot c.bindings fetched
            else tbl.append c.bindings fetched) = .ok tbl') : StepOK U lo tbl c tbl' false := by
  have hex : c.extractsNothing = false := Bool.eq_false_iff.mpr fun hh => hbne (hc.noBareAliases hh)
  have hfs := hf c lo fetched hc.wf.idAlias hc.inU hfil hex hfe
  -- a fetched row holds names of the clause only, so it agrees with every row of the table
  have hcomp : ∀ r ∈ absRows tbl, ∀ m ∈ fetched, compatible r m = true := fun r hr m hm =>
    compatible_disjoint r m fun k hk => by
      obtain ⟨m', hm', e⟩ := hfs.setEq.1 m hm
      obtain ⟨t, _, hmc⟩ := List.mem_filterMap.mp hm'
      exact absRows_lack ht hd r hr k (specBind_keys (matchClause_specBind hmc) k (rowEq_has e k ▸ hk))
  obtain ⟨hbs, hrows⟩ := fetchOnce_rows ht.none hfirst hbne hd hcomp hop
  refine tblOK_step ht ?_ (fun k => (hbs k).mpr) (List.append_ne_nil_of_right_ne_nil _ hbne)
  rw [hrows, joinClauseO_flat]
  refine .flatMap _ _ _ fun r hr => ?_
  rw [specJoinO_lacking _ _ _ c r hc.objBoundExcl (absRows_lack ht hd r hr)]
  exact leftJoin_fetched (absRows_ok ht r hr).1.1 c.optional (bindings_nodup c) hfs

/-- A clause without names keeps the table as it is or reports the pattern unresolvable: every row is kept, or none,
    by the same test. -/
theorem keep_table {U : Universe gs} {tbl : Tbl} (ht : TblOK U tbl) (hB : tbl.bindings ≠ []) {c : Clause} (lo : QOpts)
    (hb : c.bindings = []) {unres : Bool}
    (hu : unres = (!c.optional && ((gs.flatMap scanOf).filterMap (matchClause c (fetchWindow lo c))).isEmpty)) :
    StepOK U lo tbl c tbl unres := by
  have hn := bindings_eq_nil.mp hb
  have hj : ∀ r ∈ tbl.rows, SetEq (specJoinO (gs.flatMap scanOf) (nl lo.lower) (nl lo.upper) c r)
      (if unres = false then [r] else []) := by
    intro r _
    rw [specJoinO_lacking _ _ _ c r ⟨fun h => absurd (hn _ (by simp [boundAliases])) h,
      fun h => absurd (hn _ (by simp [boundAliases])) h⟩ (by rw [hb]; exact fun _ h => nomatch h), hb]
    refine (leftJoin_nothing c.optional (match_nil_of_extractsNothing (extractsNothing_of_bindings_nil hb) _ _) rfl).trans ?_
    rw [hu, fetchWindow_eq]
    cases c.optional <;> cases (List.isEmpty _) <;> exact SetEq.refl _
  unfold StepOK
  rw [absRows_of_ne hB, joinClauseO_flat]
  refine ⟨ht, hB, fun h => ?_, fun h => List.flatMap_eq_nil_iff.mpr fun r hr => ?_⟩
  · refine .trans ?_ (SetEq.flatMap _ _ _ fun r hr => ((hj r hr).trans (by rw [if_pos h]; exact SetEq.refl _)).symm)
    rw [List.flatMap_singleton']; exact SetEq.refl _
  · have := hj r hr
    rw [if_neg (by rw [h]; exact Bool.noConfusion)] at this
    exact List.isEmpty_iff.mp (setEq_isEmpty this)

theorem threeConsts_names {c : Clause} (hc : ConstWF c) (hs : c.s.isSome) (hp : c.p.isSome) (ho : c.o.isSome)
    (ha : c.hasAlias = false) : c.bindings = [] ∧ c.pID = [] ∧ c.oID = [] := by
  have a1 := hc.1 hs
  obtain ⟨a2, a3, a4⟩ := hc.2.1 hp
  obtain ⟨a5, a6, a7⟩ := hc.2.2 ho
  unfold Clause.hasAlias at ha
  simp only [Bool.or_eq_false_iff, decide_eq_false_iff_not, ne_eq, Classical.not_not] at ha
  obtain ⟨⟨⟨⟨⟨⟨⟨⟨⟨⟨⟨⟨⟨b1, b2⟩, b3⟩, b4⟩, b5⟩, b6⟩, b7⟩, b8⟩, b9⟩, b10⟩, b11⟩, b12⟩, b13⟩, b14⟩ := ha
  refine ⟨bindings_eq_nil.mpr ?_, a4, a7⟩
  simp only [extractNames, boundAliases, a1, a2, a3, a5, a6, b1, b2, b3, b4, b5, b6, b7, b8, b9, b10, b11, b12, b13, b14,
    List.cons_append, List.nil_append, List.mem_cons, List.mem_nil_iff, or_false, or_self, imp_self, implies_true]

/-- The existence test, read as the probe `simpleFetch` makes of the same clause (`simpleFetch_full`). -/
theorem threeConsts_exists {F : Facts} {U : Universe gs} (hf : FetchOK F gs U)
    {c : Clause} {lo : QOpts} (hcin : ClauseIn U c) (hfil : lo.filter = none)
    (hex : c.extractsNothing = true) (hpid : c.pID = []) (hoid : c.oID = [])
    (s : Node) (p : Pred) (o : Obj) (hs : c.s = some s) (hp : c.p = some p) (ho : c.o = some o)
    (ko : Bytes) (hko : preObj false o = some ko) :
    ((fetchWindow lo c).holds p &&
      gs.any fun q => q.g.exist { ks := preNode s, pid := p.id, pnano := p.anchor.map (·.nanos), ko := ko }) =
    !((gs.flatMap scanOf).filterMap (matchClause c (fetchWindow lo c))).isEmpty := by
  obtain ⟨ko', hko', hfe⟩ :=
    simpleFetch_full F gs { c with sAlias := existsAlias } (idAliasPlain_probe hex) lo s p o hs hp ho
  rw [hko] at hko'; injection hko' with hko'; subst hko'
  rw [← probe_fetch hf hcin hfil hex hfe]
  have hrow : [(⟨s, p, o⟩ : Triple)].filterMap (fetchRow { c with sAlias := existsAlias }) = [[(existsAlias, Cell.node s)]] := by
    have hi : shouldIgnore ⟨s, p, o⟩ { c with sAlias := existsAlias } = false := by
      unfold shouldIgnore; simp [hpid, hoid]
    simp [fetchRow_some.mpr ⟨hi, specBind_probe hex _, rfl⟩]
  rw [show fetchWindow lo { c with sAlias := existsAlias } = fetchWindow lo c from rfl, hrow]
  cases (fetchWindow lo c).holds p with
  | false => rfl
  | true => rw [if_pos rfl, flatMap_if_isEmpty, Bool.not_not, Bool.true_and]

theorem specify_table {F : Facts} {U : Universe gs} (hf : FetchOK F gs U)
    {tbl : Tbl} (ht : TblOK U tbl) (hB : tbl.bindings ≠ []) {c : Clause} {lo : QOpts} (hwf : ClauseWF c)
    (hcin : ClauseIn U c) (hfil : lo.filter = none) (out : List Row)
    (h : specifyAll F gs c lo 0 tbl.rows = .ok out) :
    let t : Tbl := { bindings := tbl.bindings, rows := out }
    let t' := if tbl.rows.isEmpty then t else t.addBindings c.bindings
    StepOK U lo tbl c t' false := by
  have hs := specifyAll_spec hf hwf hcin hfil tbl.rows out ht.rows h
  rw [← absRows_of_ne hB] at hs
  simp only
  by_cases he : tbl.rows.isEmpty = true
  · rw [if_pos he]
    have hout : out = [] := by
      rw [List.isEmpty_iff.mp he] at h; simp only [specifyAll, Except.ok.injEq] at h; exact h.symm
    subst hout
    exact ⟨⟨fun _ h => (nomatch h), fun _ h => (nomatch h), fun hb => absurd hb hB⟩, hB,
      fun _ => by rw [absRows_of_ne (tbl := { bindings := tbl.bindings, rows := [] }) hB]; exact hs.setEq,
      fun hh => nomatch hh⟩
  · rw [if_neg he]
    exact tblOK_step ht hs (fun k hk => mem_dedup.mpr (List.mem_append.mpr hk))
      (List.append_ne_nil_of_left_ne_nil hB _)

end BW.Proofs.Planner
