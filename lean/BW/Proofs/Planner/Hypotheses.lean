/-
The goal of the chain `BW/Proofs/Planner` and everything it assumes.

Goal (`processPattern_spec`, C03 `select_pattern_eq_solutions`): when `processPattern F gs (c0 :: cs) lo 0 … = .ok out`,
`SetEq out.rows (solutionsO (gs.flatMap scanOf) (nl lo.lower) (nl lo.upper) (c0 :: cs))` — the same set of rows, up to
the zone an anchor is written in.  Clause by clause: a table stands for `absRows`, satisfies `TblOK`, and
`processClause` leaves `StepOK`.  Inside a step every list of rows the planner makes `StandsFor` the reference's: the
same set and no key twice in a row, without which the two compatibility tests could differ.  The hypotheses are about
data (`GraphsOK`, `Universe`) and statement (`PatClause`; `c0` mandatory and extracting something, D35 otherwise; no
FILTER), none about execution; the store enters through `FetchOK` only.
-/
import BW.Proofs.Planner.SetEq
import BW.Proofs.Planner.Window
import BW.Proofs.Store
open BW.Model BW.Spec BW.Proofs.ClauseOrder BW.Proofs.Store

namespace BW.Proofs.Planner

def scanOf (q : QGraph) : List Triple := q.triples q.g.master

/-- `uni` gives every stored view the triple it is the view of. -/
def Faithful (q : QGraph) : Prop :=
  ∀ v ∈ q.g.master, ∃ t, q.uni v.id = some t ∧ v.ks = preNode t.s ∧ v.pid = t.p.id ∧
    v.pnano = t.p.anchor.map (·.nanos) ∧ preObj false t.o = some v.ko

/-- Index invariant (every reachable graph: C01) and `Faithful`. -/
def GraphsOK (F : Facts) (gs : List QGraph) : Prop := ∀ q ∈ gs, Inv F q.g ∧ Faithful q

/-- A constant and a stored value with one UUID pre-image are equal (D02: `/a<bc>` and `/ab<c>` are not). -/
def Apart (gs : List QGraph) (c : Clause) : Prop :=
  (∀ s, c.s = some s → ∀ q ∈ gs, ∀ t ∈ scanOf q, preNode s = preNode t.s → s = t.s) ∧
  (∀ o, c.o = some o → ∀ q ∈ gs, ∀ t ∈ scanOf q, preObj false o = preObj false t.o → objSame o t.o = true)

/-- … and so are anchors the store's 64-bit key cannot tell apart (D04 otherwise). -/
def AnchorsApart (gs : List QGraph) (c : Clause) : Prop :=
  ∀ p, c.p = some p → ∀ q ∈ gs, ∀ t ∈ scanOf q,
    (p.anchor.map (·.nanos)).map wrap64 = (t.p.anchor.map (·.nanos)).map wrap64 →
    p.anchor.map (·.nanos) = t.p.anchor.map (·.nanos)

/-- A set of cells holding whatever evaluation can put into a row or a clause, on which UUID pre-images identify
    values (fails for D02/D04), so that `Apart` and `AnchorsApart` hold of every clause the planner specialises.
    `ids`: the identifiers of the statement's `"id"@[?t]` forms.  Strings and NULL never reach a clause and need not
    be in it (`CellOK`). -/
structure Universe (gs : List QGraph) where
  cell : Cell → Prop
  ids : Bytes → Prop
  norm : ∀ v v', normCell v = normCell v' → cell v → cell v'
  stored : ∀ q ∈ gs, ∀ t ∈ scanOf q, cell (.node t.s) ∧ cell (.pred t.p) ∧ cell (objCell t.o)
  /-- a row may bind the anchor of a predicate -/
  anchor : ∀ i ta, cell (.pred (.tmp i ta)) → cell (.time ta)
  /-- what `spPA` / `spOA` build from an `"id"@[?t]` form and a time of the row -/
  built : ∀ i ta, ids i → cell (.time ta) → cell (.pred (.tmp i ta))
  /-- D02 otherwise -/
  injNode : ∀ n n', cell (.node n) → cell (.node n') → preNode n = preNode n' → n = n'
  injObj : ∀ o o', cell (objCell o) → cell (objCell o') → preObj false o = preObj false o' → objSame o o' = true
  /-- the key keeps 64 bits of an instant (D04 otherwise) -/
  injTime : ∀ a b : Time, cell (.time a) → cell (.time b) → wrap64 a.nanos = wrap64 b.nanos → a.nanos = b.nanos

variable {gs : List QGraph}

def CellOK (U : Universe gs) : Cell → Prop
  | .str _ => True
  | .null => True
  | v => U.cell v

def RowIn (U : Universe gs) (r : Row) : Prop := ∀ k v, r.get k = some v → CellOK U v

def ClauseIn (U : Universe gs) (c : Clause) : Prop :=
  (∀ s, c.s = some s → U.cell (.node s)) ∧ (∀ p, c.p = some p → U.cell (.pred p)) ∧
  (∀ o, c.o = some o → U.cell (objCell o)) ∧ (c.pID ≠ [] → U.ids c.pID) ∧ (c.oID ≠ [] → U.ids c.oID)

-- What is asked of a clause: the parser guarantees it, except `IdAliasPlain` and `noBareAliases`.

/-- Not the idiom `?o ID ?o` (pinned by the suite), which overwrites instead of comparing. -/
def IdAliasPlain (c : Clause) : Prop := c.oIDAlias = [] ∨ (c.oIDAlias ≠ c.oBinding ∧ c.oIDAlias ≠ c.oAlias)

/-- Bound aliases come only with `"id"@[?lo,?hi]`: no constant predicate, no anchor binding. -/
def AliasWF (c : Clause) : Prop :=
  (c.p.isSome ∨ c.pAnchorBinding ≠ []) → c.pLowerAlias = [] ∧ c.pUpperAlias = []

structure ClauseWF (c : Clause) : Prop where
  /-- for `tripleToRow` to be the fold of the reference's binding steps -/
  idAlias : IdAliasPlain c
  /-- for a window that skipped the row's bounds to be the reference's all the same -/
  alias : AliasWF c

def ConstWF (c : Clause) : Prop :=
  (c.s.isSome → c.sBinding = []) ∧
  (c.p.isSome → c.pBinding = [] ∧ c.pAnchorBinding = [] ∧ c.pID = []) ∧
  (c.o.isSome → c.oBinding = [] ∧ c.oAnchorBinding = [] ∧ c.oID = [])

/-- No `"id"@[?lo,?hi]` in object position. -/
def NoObjAliases (c : Clause) : Prop := c.oLowerAlias = [] ∧ c.oUpperAlias = []

/-- A bound alias of the object's interval stands in place of a constant bound. -/
def ObjBoundExcl (c : Clause) : Prop := (c.oLowerAlias ≠ [] → c.oLower = none) ∧ (c.oUpperAlias ≠ [] → c.oUpper = none)

/-- Not a hypothesis: what a successful `addSpecifiedData` shows of the row (`addSpecifiedData_rowClause`). -/
def HasObjAliases (r : Row) (c : Clause) : Prop :=
  (c.oLowerAlias ≠ [] → r.has c.oLowerAlias = true) ∧ (c.oUpperAlias ≠ [] → r.has c.oUpperAlias = true)

/-- The same of `"id"@[?lo,?hi]` in predicate position: what a successful `specialise` shows (`specialise_window`). -/
def HasPredAliases (r : Row) (c : Clause) : Prop :=
  (c.pLowerAlias ≠ [] → r.has c.pLowerAlias = true) ∧ (c.pUpperAlias ≠ [] → r.has c.pUpperAlias = true)

structure PatClause (U : Universe gs) (c : Clause) : Prop where
  wf : ClauseWF c
  /-- the existence test of three constants is then taken only when nothing is to be bound -/
  consts : ConstWF c
  inU : ClauseIn U c
  /-- a clause that extracts nothing has no bound alias either: it is probed, not fetched into rows that a table
      drops as empty -/
  noBareAliases : c.extractsNothing = true → c.bindings = []
  objBoundExcl : (c.oLowerAlias ≠ [] → c.oLower = none) ∧ (c.oUpperAlias ≠ [] → c.oUpper = none)

/-- All the chain needs of the store and the data access: a fetch stands for the reference's matches.  Asked only of a
    clause that extracts something: of one that does not every row is empty, and `Table.AddRow` drops an empty row, which
    is why the planner probes such a clause under a synthetic alias. -/
def FetchOK (F : Facts) (gs : List QGraph) (U : Universe gs) : Prop :=
  ∀ (c : Clause) (lo : QOpts) (fetched : List Row), IdAliasPlain c → ClauseIn U c → lo.filter = none →
    c.extractsNothing = false → simpleFetch F gs c lo 0 = .ok fetched →
    StandsFor fetched ((gs.flatMap scanOf).filterMap (matchClause c (fetchWindow lo c)))

def RowOK (U : Universe gs) (r : Row) : Prop := KeysNodup r ∧ RowIn U r

structure TblOK (U : Universe gs) (tbl : Tbl) : Prop where
  rows : ∀ r ∈ tbl.rows, RowOK U r
  /-- so a clause that shares no binding with the table shares no name with a row -/
  keys : ∀ r ∈ tbl.rows, ∀ k, r.has k = true → k ∈ tbl.bindings
  /-- a table without bindings is the one before the first clause -/
  none : tbl.bindings = [] → tbl.rows = []

/-- The rows the table stands for: before the first clause, the empty assignment. -/
def absRows (tbl : Tbl) : List Row := if tbl.bindings = [] then [[]] else tbl.rows

/-- What `processClause` is shown to leave; `unres`: it reported the pattern unresolvable. -/
def StepOK (U : Universe gs) (lo : QOpts) (tbl : Tbl) (c : Clause) (tbl' : Tbl) (unres : Bool) : Prop :=
  TblOK U tbl' ∧ (tbl'.bindings ≠ []) ∧
  (unres = false → SetEq (absRows tbl') (joinClauseO (gs.flatMap scanOf) (nl lo.lower) (nl lo.upper) (absRows tbl) c)) ∧
  (unres = true → joinClauseO (gs.flatMap scanOf) (nl lo.lower) (nl lo.upper) (absRows tbl) c = [])

end BW.Proofs.Planner
