/-
One row of the per-row strategy (`addSpecifiedData`) is one row of the reference's join step, for clauses without
object bound aliases.  The reference's `leftJoin` is first written with the specialised clause in the window of its
fetch (`leftJoin_specialised`); then the fetch stands for those matches — or, when the specialised clause extracts
nothing, the probe finds something iff there is one (`probe_fetch`), and the row is kept or dropped.
-/
import BW.Proofs.Planner.LeftJoin
import BW.Proofs.Query
open BW.Model BW.Spec BW.Proofs.Lists BW.Proofs.ClauseOrder
open BW.Proofs.Query (existsAlias addSpecifiedData_inv)

namespace BW.Proofs.Planner

variable {gs : List QGraph}

/-- The probe carries a synthetic subject alias so that its rows are not empty (a table drops those). -/
theorem specBind_probe {c : Clause} (h : c.extractsNothing = true) (t : Triple) :
    specBind { c with sAlias := existsAlias } t = some [(existsAlias, Cell.node t.s)] := by
  have hn := (extractsNothing_iff c).mp h
  have h1 : c.sBinding = [] := hn _ (by simp [extractNames])
  have hrest : ∀ kv ∈ (clauseSteps { c with sAlias := existsAlias } t).drop 2, kv.1 = [] := fun kv hkv =>
    hn kv.1 (List.mem_of_mem_drop (i := 2) (List.mem_map_of_mem (f := (·.1)) hkv : kv.1 ∈ (extractNames c).drop 2))
  unfold specBind
  rw [← List.take_append_drop 2 (clauseSteps _ t), List.foldl_append, foldl_bindStep_unnamed _ _ hrest]
  rw [show (clauseSteps _ t).take 2 = [(c.sBinding, some (Cell.node t.s)), (existsAlias, some (Cell.node t.s))] from rfl, h1]
  rfl

theorem idAliasPlain_probe {c : Clause} (h : c.extractsNothing = true) : IdAliasPlain { c with sAlias := existsAlias } :=
  Or.inl ((extractsNothing_iff c).mp h c.oIDAlias (by simp [extractNames]))

theorem probe_clause_match {c : Clause} (h : c.extractsNothing = true) (w : Window) (ht : Tight c w) (t : Triple) :
    (∃ m, matchClause { c with sAlias := existsAlias } w t = some m) ↔ (∃ m, matchClause c w t = some m) := by
  have ht' : Tight { c with sAlias := existsAlias } w := ht
  constructor
  · rintro ⟨m, hm⟩
    obtain ⟨h1, h2, h3, _⟩ := (matchClause_some_iff _ w t ht' m).mp hm
    exact ⟨[], (matchClause_some_iff c w t ht []).mpr ⟨h1, h2, h3, specBind_of_extractsNothing h t⟩⟩
  · rintro ⟨m, hm⟩
    obtain ⟨h1, h2, h3, _⟩ := (matchClause_some_iff c w t ht m).mp hm
    exact ⟨_, (matchClause_some_iff _ w t ht' _).mpr ⟨h1, h2, h3, specBind_probe h t⟩⟩

theorem probe_fetch {F : Facts} {U : Universe gs} (hf : FetchOK F gs U)
    {c : Clause} {lo : QOpts} (hcin : ClauseIn U c) (hfil : lo.filter = none) (hex : c.extractsNothing = true)
    {rows : List Row} (hfe : simpleFetch F gs { c with sAlias := existsAlias } lo 0 = .ok rows) :
    rows.isEmpty = ((gs.flatMap scanOf).filterMap (matchClause c (fetchWindow lo c))).isEmpty := by
  have hfd := hf _ lo rows (idAliasPlain_probe hex) (show ClauseIn U { c with sAlias := existsAlias } from hcin) hfil
    (by simp [Clause.extractsNothing, existsAlias]) hfe
  rw [setEq_isEmpty hfd.setEq]
  exact filterMap_isEmpty_congr _ fun t _ => probe_clause_match hex _ (tight_fetchWindow lo c) t

/-- Every name of a clause that extracts nothing is a bound alias of its predicate, which the row holds. -/
theorem nullRow_bounds {c : Clause} {r : Row} (hex : c.extractsNothing = true) (hno : NoObjAliases c)
    (hp : HasPredAliases r c) : nullRow c.bindings r = [] := by
  unfold nullRow
  rw [List.filter_eq_nil_iff.mpr, List.map_nil]
  intro k hk
  obtain ⟨hne, hk⟩ := mem_bindings.mp hk
  rcases List.mem_append.mp hk with hk | hk
  · exact absurd ((extractsNothing_iff c).mp hex k hk) hne
  · simp only [boundAliases, hno.1, hno.2, List.mem_cons, List.mem_nil_iff, or_false] at hk
    rcases hk with rfl | rfl | rfl | rfl
    · simp [hp.1 hne]
    · simp [hp.2 hne]
    · exact absurd rfl hne
    · exact absurd rfl hne

theorem objBoundsForRow_plain {c : Clause} (h : NoObjAliases c) (r : Row) :
    objBoundsForRow r c = .ok c := by
  unfold objBoundsForRow objBound
  rw [if_pos h.1, if_pos h.2]

theorem specialiseO_eq {c : Clause} (h : NoObjAliases c) (r : Row) (lo : QOpts) :
    specialiseO r c lo = specialise r c lo := by
  unfold specialiseO
  cases hs : specialise r c lo with
  | error e => rfl
  | ok p =>
    obtain ⟨c', lo'⟩ := p
    have hst := (specialise_specialised hs).strip_eq
    simp only [objBoundsForRow_plain
      ⟨(strip_proj Clause.oLowerAlias hst).trans h.1, (strip_proj Clause.oUpperAlias hst).trans h.2⟩]

theorem addSpecifiedData_spec_plain {F : Facts} {U : Universe gs} (hf : FetchOK F gs U)
    {c : Clause} {lo : QOpts} {r : Row} (hr : RowOK U r) (hwf : ClauseWF c) (hno : NoObjAliases c) (hcin : ClauseIn U c)
    (hfil : lo.filter = none) (out : List Row) (h : addSpecifiedData F gs r c lo 0 = .ok out) :
    StandsFor out (specJoinO (gs.flatMap scanOf) (nl lo.lower) (nl lo.upper) c r) := by
  obtain ⟨c', lo', hsp, hcase⟩ := addSpecifiedData_inv h
  rw [specialiseO_eq hno] at hsp
  obtain ⟨hs, hwin, hfil', hid', hin, hpres⟩ := specialise_facts U hr.2 hwf hcin hfil hsp
  -- the reference's step for this row, in the terms of the specialised clause and the window of its fetch
  rw [specJoinO_by, rowMatch_plain _ _ hno, ← hwin, ← leftJoin_specialised hs]
  rcases hcase with ⟨hex, rows, hfe, rfl⟩ | ⟨hex, fetched, hfe, rfl⟩
  · have hexc : c.extractsNothing = true := (strip_proj Clause.extractsNothing hs.strip_eq).symm.trans hex
    rw [probe_fetch hf hin hfil' hex hfe]
    refine ⟨(leftJoin_nothing c.optional (match_nil_of_extractsNothing hex _ _) (nullRow_bounds hexc hno hpres)).symm,
      fun x hx => ?_⟩
    split at hx
    · rw [List.mem_singleton.mp hx]; exact hr.1
    · cases hx
  · have hfd := hf c' lo' fetched hid' hin hfil' hex hfe
    rw [joinRow_eq _ _ hr.1 hfd.nodup, strip_proj Clause.bindings hs.strip_eq]
    exact leftJoin_fetched hr.1 c.optional (bindings_nodup c) hfd

end BW.Proofs.Planner
