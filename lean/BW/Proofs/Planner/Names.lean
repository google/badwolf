/-
Names: the bindings of a clause are the non-empty names among those it extracts into and those it reads interval bounds
from; a matched row holds exactly the former, so a clause that extracts nothing matches with the empty row.
-/
import BW.Proofs.Planner.Match
open BW.Model BW.Spec BW.Proofs.Lists BW.Proofs.ClauseOrder

namespace BW.Proofs.Planner

theorem dedup_append (a b : List Bytes) : ∃ ys, dedup (a ++ b) = dedup a ++ ys ∧ ∀ y ∈ ys, y ∈ b := by
  obtain ⟨ys, e, hm⟩ := foldl_keepFirst_eq_append b (dedup a)
  exact ⟨ys, by unfold dedup at e ⊢; rw [List.foldl_append, e], hm⟩

theorem dedup_filter_lacking (A B : List Bytes) (p : Bytes → Bool) (h : ∀ k ∈ B, p k = false) :
    (dedup (A ++ B)).filter p = (dedup A).filter p := by
  obtain ⟨ys, e, hy⟩ := dedup_append A B
  have : ys.filter p = [] := List.filter_eq_nil_iff.mpr fun y hyy => by rw [h y (hy y hyy)]; exact Bool.false_ne_true
  rw [e, List.filter_append, this, List.append_nil]

theorem dedup_nodup (l : List Bytes) : (dedup l).Nodup := nodup_foldl_keepFirst l [] List.nodup_nil

theorem mem_dedup {l : List Bytes} {k : Bytes} : k ∈ dedup l ↔ k ∈ l :=
  (mem_foldl_keepFirst l [] k).trans (by simp)

def extractNames (c : Clause) : List Bytes :=
  [c.sBinding, c.sAlias, c.sTypeAlias, c.sIDAlias, c.pBinding, c.pAlias, c.pIDAlias, c.pAnchorBinding, c.pAnchorAlias,
   c.oBinding, c.oAlias, c.oTypeAlias, c.oIDAlias, c.oAnchorBinding, c.oAnchorAlias]

def boundAliases (c : Clause) : List Bytes := [c.pLowerAlias, c.pUpperAlias, c.oLowerAlias, c.oUpperAlias]

theorem steps_keys (c : Clause) (t : Triple) : (clauseSteps c t).map (·.1) = extractNames c := rfl

theorem step_mem (c : Clause) (t : Triple) (n : Nat) (h : n < 15) : (clauseSteps c t)[n]'h ∈ clauseSteps c t :=
  List.getElem_mem h

theorem steps_s (c : Clause) (t : Triple) :
    (c.sBinding, some (Cell.node t.s)) ∈ clauseSteps c t ∧ (c.sAlias, some (Cell.node t.s)) ∈ clauseSteps c t :=
  ⟨step_mem c t 0 (by decide), step_mem c t 1 (by decide)⟩

theorem steps_p (c : Clause) (t : Triple) :
    (c.pBinding, some (Cell.pred t.p)) ∈ clauseSteps c t ∧ (c.pAlias, some (Cell.pred t.p)) ∈ clauseSteps c t :=
  ⟨step_mem c t 4 (by decide), step_mem c t 5 (by decide)⟩

theorem steps_pAnchor (c : Clause) (t : Triple) :
    (c.pAnchorBinding, extract c.optional (anchorOf t.p)) ∈ clauseSteps c t ∧
    (c.pAnchorAlias, extract c.optional (anchorOf t.p)) ∈ clauseSteps c t :=
  ⟨step_mem c t 7 (by decide), step_mem c t 8 (by decide)⟩

theorem steps_o (c : Clause) (t : Triple) :
    (c.oBinding, some (objCell t.o)) ∈ clauseSteps c t ∧ (c.oAlias, some (objCell t.o)) ∈ clauseSteps c t :=
  ⟨step_mem c t 9 (by decide), step_mem c t 10 (by decide)⟩

theorem step_oAnchor (c : Clause) (t : Triple) :
    (c.oAnchorBinding, extract c.optional (match t.o with | .pred p => anchorOf p | _ => none)) ∈ clauseSteps c t :=
  step_mem c t 13 (by decide)

/-- `GraphClause.Bindings()` lists the same nineteen fields in another order: the `decide` is on that permutation. -/
theorem mem_bindings {c : Clause} {k : Bytes} :
    k ∈ c.bindings ↔ k ≠ [] ∧ k ∈ extractNames c ++ boundAliases c := by
  unfold Clause.bindings
  rw [mem_dedup, List.mem_filter, decide_eq_true_eq, and_comm]
  exact and_congr_right fun _ => List.Perm.mem_iff (List.Perm.map (fun i => (extractNames c ++ boundAliases c).getD i [])
    (by decide : [0, 1, 2, 3, 5, 7, 4, 15, 16, 6, 8, 9, 10, 11, 12, 14, 13, 17, 18].Perm (List.range 19)))

theorem bindings_eq_nil {c : Clause} : c.bindings = [] ↔ ∀ k ∈ extractNames c ++ boundAliases c, k = [] := by
  rw [List.eq_nil_iff_forall_not_mem]
  simp only [mem_bindings, not_and]
  exact forall_congr' fun _ => Decidable.not_imp_not

theorem bindings_nodup (c : Clause) : c.bindings.Nodup := dedup_nodup _

theorem extractsNothing_iff (c : Clause) : c.extractsNothing = true ↔ ∀ k ∈ extractNames c, k = [] := by
  unfold Clause.extractsNothing extractNames
  simp only [Bool.and_eq_true, decide_eq_true_eq, List.mem_cons, List.mem_nil_iff, or_false, forall_eq_or_imp, forall_eq, and_assoc]

theorem extractsNothing_of_bindings_nil {c : Clause} (hb : c.bindings = []) : c.extractsNothing = true :=
  (extractsNothing_iff c).mpr fun k hk => bindings_eq_nil.mp hb k (List.mem_append_left _ hk)

theorem specBind_has {c : Clause} {t : Triple} {m : Row} (h : specBind c t = some m) (k : Bytes) :
    m.has k = true ↔ k ≠ [] ∧ k ∈ extractNames c := by
  rw [← steps_keys c t, List.mem_map]
  constructor
  · intro hk
    obtain ⟨v, hv⟩ := get_of_has hk
    obtain ⟨kv, hmem, hkk, hne, _⟩ := specBind_get h hv
    exact ⟨hne, kv, hmem, hkk⟩
  · rintro ⟨hne, kv, hmem, rfl⟩
    obtain ⟨v, _, _, hg, _⟩ := specBind_step h (k := kv.1) (e := kv.2) hmem hne
    exact has_of_get hg

theorem specBind_isEmpty {c : Clause} {t : Triple} {m : Row} (h : specBind c t = some m) :
    m.isEmpty = c.extractsNothing := by
  rw [Bool.eq_iff_iff, isEmpty_iff_has, extractsNothing_iff]
  refine forall_congr' fun k => ?_
  rw [← Bool.not_eq_true, specBind_has h k, not_and', Decidable.not_not]

theorem specBind_of_extractsNothing {c : Clause} (h : c.extractsNothing = true) (t : Triple) : specBind c t = some [] :=
  foldl_bindStep_unnamed _ _ fun kv hkv => (extractsNothing_iff c).mp h kv.1 (steps_keys c t ▸ List.mem_map_of_mem hkv)

theorem match_nil_of_extractsNothing {c : Clause} (h : c.extractsNothing = true) (w : Window) (scan : List Triple) (m : Row)
    (hm : m ∈ scan.filterMap (matchClause c w)) : m = [] :=
  let ⟨t, _, hmc⟩ := List.mem_filterMap.mp hm
  Option.some.inj ((matchClause_specBind hmc).symm.trans (specBind_of_extractsNothing h t))

theorem specBind_keys {c : Clause} {t : Triple} {m : Row} (h : specBind c t = some m) (k : Bytes) (hk : m.has k = true) :
    k ∈ c.bindings :=
  have ⟨hne, hin⟩ := (specBind_has h k).mp hk
  mem_bindings.mpr ⟨hne, List.mem_append_left _ hin⟩

end BW.Proofs.Planner
