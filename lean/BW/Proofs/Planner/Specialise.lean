/-
What `specialise` (first half of `addSpecifiedData`) does to a clause: five steps, each filling at most one open
position with a value of the row (`Fill`).  A match is the test of the constants and the match of the clause without
them (`strip`); the constants added hold of every match compatible with the row (`Specialised`), so they change nothing
for the row; and the fetch is handed the reference's window of the clause under the row.
-/
import BW.Proofs.Planner.Names
open BW.Model BW.Spec BW.Proofs.ClauseOrder

namespace BW.Proofs.Planner

inductive Fill (r : Row) (c : Clause) : Clause → Prop
  | same : Fill r c c
  | s {n : Node} : c.s = none → boundValue r [c.sBinding, c.sAlias] = some (.node n) → Fill r c { c with s := some n }
  | pAnchor {t : Time} : c.p = none → c.pID ≠ [] → c.pAnchorBinding ≠ [] → r.get c.pAnchorBinding = some (.time t) →
      Fill r c { c with p := some (.tmp c.pID t) }
  | p {p : Pred} : c.p = none → boundValue r [c.pBinding, c.pAlias] = some (.pred p) → Fill r c { c with p := some p }
  | oAnchor {t : Time} : c.o = none → c.oID ≠ [] → c.oAnchorBinding ≠ [] → r.get c.oAnchorBinding = some (.time t) →
      Fill r c { c with o := some (.pred (.tmp c.oID t)) }
  | o {o : Obj} : c.o = none → boundValue r [c.oBinding, c.oAlias] = some (objCell o) → Fill r c { c with o := some o }

theorem spS_fill (r : Row) (c : Clause) : Fill r c (spS r c) := by
  unfold spS; split
  · rename_i h; split
    · rename_i n hb; exact .s (Option.eq_none_of_isNone h) hb
    · exact .same
  · exact .same

theorem spPA_fill (r : Row) (c : Clause) : Fill r c (spPA r c) := by
  unfold spPA; split
  · rename_i h; split
    · rename_i t hg
      simp only [Bool.and_eq_true, decide_eq_true_eq] at h
      exact .pAnchor (Option.eq_none_of_isNone h.1.1) h.1.2 h.2 hg
    · exact .same
  · exact .same

theorem spP_fill (r : Row) {c : Clause} (hn : c.p = none) : Fill r c (spP r c) := by
  unfold spP; split
  · rename_i p hb; exact .p hn hb
  · exact .same

theorem spOA_fill (r : Row) (c : Clause) : Fill r c (spOA r c) := by
  unfold spOA; split
  · rename_i h; split
    · rename_i t hg
      simp only [Bool.and_eq_true, decide_eq_true_eq] at h
      exact .oAnchor (Option.eq_none_of_isNone h.1.1) h.1.2 h.2 hg
    · exact .same
  · exact .same

theorem cellToObj_some {v : Cell} {o : Obj} (h : cellToObj v = some o) : objCell o = v := by
  cases v <;> cases h <;> rfl

theorem spO_fill (r : Row) {c : Clause} (hn : c.o = none) : Fill r c (spO r c) := by
  unfold spO; split
  · rename_i o hb
    obtain ⟨v, hbv, hco⟩ := Option.bind_eq_some_iff.mp hb
    exact .o hn (cellToObj_some hco ▸ hbv)
  · exact .same

def strip (c : Clause) : Clause := { c with s := none, p := none, o := none }

theorem clauseSteps_strip (c : Clause) (t : Triple) : clauseSteps c t = clauseSteps (strip c) t := rfl

/-- `hf` is `fun _ => rfl` for whatever does not read `s`, `p`, `o`: the other fields, the binding steps,
    `shouldIgnore`, the bindings. -/
theorem strip_proj {α : Sort _} (f : Clause → α) {c c' : Clause} (h : strip c' = strip c)
    (hf : ∀ c, f (strip c) = f c := by intro _; rfl) : f c' = f c := by
  rw [← hf c', h, hf c]

theorem matchClause_strip (c : Clause) (w : Window) (t : Triple) :
    matchClause c w t = if constsMatch c t = true then matchClause (strip c) w t else none := by
  unfold matchClause
  cases constsMatch c t <;> rfl

/-- The third and the fifth step run only for a position still open, and then tighten the window by the row's bounds. -/
theorem specialise_inv {r : Row} {c c' : Clause} {lo lo' : QOpts} (h : specialise r c lo = .ok (c', lo')) :
    ∃ c3 lo3,
      ((spPA r (spS r c)).p = none ∧ c3 = spP r (spPA r (spS r c)) ∧ boundsForRow lo c3 r = .ok lo3 ∨
        (spPA r (spS r c)).p ≠ none ∧ c3 = spPA r (spS r c) ∧ lo3 = lo) ∧
      ((spOA r c3).o = none ∧ c' = spO r (spOA r c3) ∧ boundsForRow lo3 c' r = .ok lo' ∨
        (spOA r c3).o ≠ none ∧ c' = spOA r c3 ∧ lo' = lo3) := by
  unfold specialise at h
  simp only at h
  split at h
  · cases h
  · rename_i c3 lo3 h3
    refine ⟨c3, lo3, ?_, ?_⟩
    · split at h3
      · rename_i hp
        split at h3
        · cases h3; exact .inl ⟨Option.eq_none_of_isNone hp, rfl, by assumption⟩
        · cases h3
      · rename_i hp
        cases h3; exact .inr ⟨fun e => hp (by rw [e]; rfl), rfl, rfl⟩
    · split at h
      · rename_i ho
        split at h
        · cases h; exact .inl ⟨Option.eq_none_of_isNone ho, rfl, by assumption⟩
        · cases h
      · rename_i ho
        cases h; exact .inr ⟨fun e => ho (by rw [e]; rfl), rfl, rfl⟩

theorem specialise_induct {r : Row} {P : Clause → Prop} (hstep : ∀ c c', Fill r c c' → P c → P c')
    {c c' : Clause} {lo lo' : QOpts} (h : specialise r c lo = .ok (c', lo')) (h0 : P c) : P c' := by
  obtain ⟨c3, lo3, h3, h5⟩ := specialise_inv h
  have p2 := hstep _ _ (spPA_fill r _) (hstep _ _ (spS_fill r c) h0)
  have p3 : P c3 := by
    rcases h3 with ⟨hn, rfl, _⟩ | ⟨_, rfl, _⟩
    · exact hstep _ _ (spP_fill r hn) p2
    · exact p2
  have p4 := hstep _ _ (spOA_fill r c3) p3
  rcases h5 with ⟨hn, rfl, _⟩ | ⟨_, rfl, _⟩
  · exact hstep _ _ (spO_fill r hn) p4
  · exact p4

theorem boundValue_mem (r : Row) (a b : Bytes) (v : Cell) (h : boundValue r [a, b] = some v) :
    (a ≠ [] ∧ r.get a = some v) ∨ (b ≠ [] ∧ r.get b = some v) := by
  have hv : v ∈ ([a, b].filter (· ≠ [])).filterMap r.get := by
    unfold boundValue at h
    split at h
    · rename_i heq; cases h; rw [heq]; exact List.mem_cons_self
    · rename_i heq; split at h
      · cases h; rw [heq]; exact List.mem_cons_self
      · cases h
    · cases h
  obtain ⟨k, hk, hg⟩ := List.mem_filterMap.mp hv
  obtain ⟨hm, hne⟩ := List.mem_filter.mp hk
  have hne' : k ≠ [] := by simpa using hne
  rcases List.mem_cons.mp hm with rfl | hm
  · exact .inl ⟨hne', hg⟩
  · cases List.mem_singleton.mp hm; exact .inr ⟨hne', hg⟩

theorem held_value_eq_step {c : Clause} {w : Window} {t : Triple} {m r : Row} (hm : matchClause (strip c) w t = some m)
    (hc : compatible r m = true) (k : Bytes) (e : Option Cell) (hmem : (k, e) ∈ clauseSteps c t) (hk : k ≠ []) (v0 : Cell)
    (h0 : r.get k = some v0) : ∃ c0, e = some c0 ∧ normCell v0 = normCell c0 := by
  obtain ⟨v, c0, he, hv, hn⟩ := specBind_step (c := c) (matchClause_some hm).steps hmem hk
  exact ⟨c0, he, (compatible_get hc h0 hv).trans hn⟩

theorem boundValue_eq_step {c : Clause} {w : Window} {t : Triple} {m r : Row} (hm : matchClause (strip c) w t = some m)
    (hc : compatible r m = true) {a b : Bytes} {v x : Cell} (hb : boundValue r [a, b] = some v)
    (hs : (a, some x) ∈ clauseSteps c t ∧ (b, some x) ∈ clauseSteps c t) : normCell v = normCell x := by
  rcases boundValue_mem r _ _ _ hb with ⟨hk, hg⟩ | ⟨hk, hg⟩
  · obtain ⟨c0, he, hn⟩ := held_value_eq_step hm hc _ _ hs.1 hk _ hg; cases he; exact hn
  · obtain ⟨c0, he, hn⟩ := held_value_eq_step hm hc _ _ hs.2 hk _ hg; cases he; exact hn

/-- `c'` is `c` with constants added that change nothing for the row `r`: the two differ in their constants only,
    and wherever `c` without its constants matches a triple with a row compatible with `r`, the constants of the one
    hold iff those of the other do. -/
structure Specialised (r : Row) (c c' : Clause) : Prop where
  strip_eq : strip c' = strip c
  consts : ∀ w t m, matchClause (strip c) w t = some m → compatible r m = true →
    constsMatch c' t = constsMatch c t

theorem Specialised.refl (r : Row) (c : Clause) : Specialised r c c := ⟨rfl, fun _ _ _ _ _ => rfl⟩

theorem Specialised.trans {r : Row} {c c2 c3 : Clause} (h1 : Specialised r c c2) (h2 : Specialised r c2 c3) :
    Specialised r c c3 :=
  ⟨h2.strip_eq.trans h1.strip_eq, fun w t m hm hc => (h2.consts w t m (h1.strip_eq ▸ hm) hc).trans (h1.consts w t m hm hc)⟩

/-- The NULL an OPTIONAL clause shows where an extraction does not apply is not a time. -/
theorem extract_time {opt : Bool} {e : Option Cell} {tr : Time} {c0 : Cell} (he : extract opt e = some c0)
    (hn : normCell (.time tr) = normCell c0) : e = some c0 := by
  cases e with
  | some x => exact he
  | none => cases opt <;> simp [extract] at he; subst he; simp [normCell] at hn

/-- The anchor of `p` is extracted into a name under which a compatible row holds the time `tr`: `p` is temporal, at
    that instant. -/
theorem anchor_pred {p : Pred} {tr : Time} {c0 : Cell} {id : Bytes} (he : anchorOf p = some c0)
    (hn : normCell (.time tr) = normCell c0) (hid : p.id = id) : predSame (.tmp id tr) p = true := by
  cases p with
  | imm i => cases he
  | tmp i ta =>
    cases he
    simp only [normCell, Cell.time.injEq, Time.mk.injEq] at hn
    simp [predSame, Pred.id, Pred.anchor, hn.1, ← hid]

theorem fill_specialised {r : Row} {c c' : Clause} (h : Fill r c c') : Specialised r c c' := by
  -- the new constant is the row's value under a name that the match binds to the triple's part in that position
  cases h with
  | same => exact .refl r c
  | @s n hn hb =>
    refine ⟨rfl, fun w t m hm hc => ?_⟩
    have e : n = t.s := by simpa [normCell] using boundValue_eq_step hm hc hb (steps_s c t)
    simp [constsMatch, hn, e]
  | pAnchor hn hid hab hg =>
    refine ⟨rfl, fun w t m hm hc => ?_⟩
    obtain ⟨c0, he, hnc⟩ := held_value_eq_step hm hc _ _ (steps_pAnchor c t).1 hab _ hg
    have e : predSame (.tmp c.pID _) t.p = true := anchor_pred (extract_time he hnc) hnc ((matchClause_some hm).pID hid)
    simp [constsMatch, hn, e]
  | @p p hn hb =>
    refine ⟨rfl, fun w t m hm hc => ?_⟩
    have e : predSame p t.p = true := by
      simpa [cellSame] using (cellSame_iff _ _).mpr (boundValue_eq_step hm hc hb (steps_p c t))
    simp [constsMatch, hn, e]
  | oAnchor hn hid hab hg =>
    refine ⟨rfl, fun w t m hm hc => ?_⟩
    obtain ⟨c0, he, hnc⟩ := held_value_eq_step hm hc _ _ (step_oAnchor c t) hab _ hg
    have he := extract_time he hnc
    cases hto : t.o with
    | pred p =>
      rw [hto] at he
      have e : predSame (.tmp c.oID _) p = true := anchor_pred he hnc ((matchClause_some hm).oID hid hto)
      simp [constsMatch, hn, hto, objSame, e]
    | node n => rw [hto] at he; cases he
    | lit l => rw [hto] at he; cases he
  | @o o hn hb =>
    refine ⟨rfl, fun w t m hm hc => ?_⟩
    have e : objSame o t.o = true :=
      objSame_cell o t.o ▸ (cellSame_iff _ _).mpr (boundValue_eq_step hm hc hb (steps_o c t))
    simp [constsMatch, hn, e]

theorem specialise_specialised {r : Row} {c c' : Clause} {lo lo' : QOpts} (h : specialise r c lo = .ok (c', lo')) :
    Specialised r c c' :=
  specialise_induct (P := Specialised r c) (fun _ _ f h => h.trans (fill_specialised f)) h (.refl r c)

/-- C03 `specialisation_is_transparent`, in any window. -/
theorem match_specialised {r : Row} {c c' : Clause} (h : Specialised r c c') (w : Window) (t : Triple) (m : Row) :
    (matchClause c' w t = some m ∧ compatible r m = true) ↔ (matchClause c w t = some m ∧ compatible r m = true) := by
  rw [matchClause_strip c', matchClause_strip c, h.strip_eq]
  constructor
  · rintro ⟨h1, h2⟩
    obtain ⟨_, hm⟩ := Option.ite_none_right_eq_some.mp h1
    exact ⟨h.consts w t m hm h2 ▸ h1, h2⟩
  · rintro ⟨h1, h2⟩
    obtain ⟨_, hm⟩ := Option.ite_none_right_eq_some.mp h1
    exact ⟨(h.consts w t m hm h2).symm ▸ h1, h2⟩

theorem filter_specialised {r : Row} {c c' : Clause} (h : Specialised r c c') (w : Window) (scan : List Triple) :
    (scan.filterMap (matchClause c' w)).filter (compatible r) = (scan.filterMap (matchClause c w)).filter (compatible r) := by
  rw [List.filter_filterMap, List.filter_filterMap]
  congr 1; funext t
  exact Option.ext fun m => by
    rw [Option.filter_eq_some_iff, Option.filter_eq_some_iff]; exact match_specialised h w t m

/-- One bound alias of `updateTimeBoundsForRow`; `b`: the lower one. -/
theorem boundStep_ok {r : Row} {l0 lo1 : QOpts} {alias : Bytes} {b : Bool} (h : boundStep r l0 alias b = .ok lo1) :
    nl lo1.lower = (if b = true then olo (aliasBound alias r) (nl l0.lower) else nl l0.lower) ∧
    nl lo1.upper = (if b = true then nl l0.upper else ohi (aliasBound alias r) (nl l0.upper)) ∧
    lo1.filter = l0.filter ∧ (alias ≠ [] → r.has alias = true) := by
  unfold boundStep at h
  unfold aliasBound
  split at h
  · rename_i ha; cases h; rw [if_neg (not_not_intro ha)]; cases b <;> exact ⟨rfl, rfl, rfl, fun h => absurd ha h⟩
  · rename_i ha
    split at h
    · cases h
    · rename_i t hg
      rw [if_pos ha, rowTime, hg]
      cases b <;> cases h
      · refine ⟨rfl, ?_, rfl, fun _ => has_of_get hg⟩
        cases l0.upper
        · rfl
        · exact nl_earlier _ _
      · refine ⟨?_, rfl, rfl, fun _ => has_of_get hg⟩
        cases l0.lower
        · rfl
        · exact nl_later _ _
    · cases h

theorem boundsForRow_ok {lo lo1 : QOpts} {c : Clause} {r : Row} (h : boundsForRow lo c r = .ok lo1) :
    nl lo1.lower = olo (aliasBound c.pLowerAlias r) (olo (nl c.pLower) (nl lo.lower)) ∧
    nl lo1.upper = ohi (aliasBound c.pUpperAlias r) (ohi (nl c.pUpper) (nl lo.upper)) ∧ lo1.filter = lo.filter ∧ HasPredAliases r c := by
  unfold boundsForRow at h
  split at h
  · cases h
  · rename_i la hla
    split at h
    · cases h
    · rename_i lb hlb
      cases h
      obtain ⟨a1, a2, a3, a4⟩ := boundStep_ok hla
      obtain ⟨b1, b2, b3, b4⟩ := boundStep_ok hlb
      refine ⟨?_, ?_, ?_, a4, b4⟩
      · rw [updateTimeBounds_lower, b1, a1, updateTimeBounds_lower]; exact olo_absorb ..
      · rw [updateTimeBounds_upper, b2, a2, updateTimeBounds_upper]; exact ohi_absorb ..
      · rw [updateTimeBounds_filter, b3, a3, updateTimeBounds_filter]

/-- A predicate not open after two steps is a constant or comes from the anchor binding: `AliasWF` applies. -/
theorem no_bound_aliases {r : Row} {c : Clause} (hwf : AliasWF c) (hp : (spPA r (spS r c)).p ≠ none) :
    c.pLowerAlias = [] ∧ c.pUpperAlias = [] := by
  have hs : (spS r c).p = c.p ∧ (spS r c).pAnchorBinding = c.pAnchorBinding := by
    unfold spS; split
    · split <;> exact ⟨rfl, rfl⟩
    · exact ⟨rfl, rfl⟩
  refine hwf ?_
  rw [← hs.1, ← hs.2]
  generalize spS r c = c2 at hp ⊢
  unfold spPA at hp
  by_cases hc : (c2.p.isNone && decide (c2.pID ≠ []) && decide (c2.pAnchorBinding ≠ [])) = true
  · simp only [Bool.and_eq_true, decide_eq_true_eq] at hc
    exact Or.inr hc.2
  · simp only [hc, Bool.false_eq_true, if_false] at hp
    exact Or.inl (Option.isSome_iff_ne_none.mpr hp)

/-- With the options `lo1` the fetch of `c` sees the reference's window of `c` under the row `r` within `lo`; the row
    holds the bound aliases, since either its bounds were applied or there are none. -/
def WinOK (c : Clause) (r : Row) (lo lo1 : QOpts) : Prop :=
  olo (nl c.pLower) (nl lo1.lower) = olo (aliasBound c.pLowerAlias r) (olo (nl c.pLower) (nl lo.lower)) ∧
  ohi (nl c.pUpper) (nl lo1.upper) = ohi (aliasBound c.pUpperAlias r) (ohi (nl c.pUpper) (nl lo.upper)) ∧ lo1.filter = lo.filter ∧
  HasPredAliases r c

theorem specialise_window {r : Row} {c c' : Clause} {lo lo' : QOpts} (h : specialise r c lo = .ok (c', lo'))
    (hwf : AliasWF c) :
    fetchWindow lo' c' = clauseWindow (nl lo.lower) (nl lo.upper) c r ∧ lo'.filter = lo.filter ∧ HasPredAliases r c := by
  have hs := (specialise_specialised h).strip_eq
  suffices hw : WinOK c r lo lo' from
    ⟨by rw [strip_proj (fetchWindow lo') hs, fetchWindow_closed, clauseWindow_closed, hw.1, hw.2.1], hw.2.2⟩
  obtain ⟨c3, lo3, h3, h5⟩ := specialise_inv h
  have e2 : strip (spPA r (spS r c)) = strip c := (fill_specialised (spPA_fill r _)).strip_eq.trans (fill_specialised (spS_fill r c)).strip_eq
  have e3 : strip c3 = strip c := by
    rcases h3 with ⟨hn, rfl, _⟩ | ⟨_, rfl, _⟩
    · exact (fill_specialised (spP_fill r hn)).strip_eq.trans e2
    · exact e2
  -- after the third step the window is already the reference's, whether the row's bounds were applied or not
  have b3 : WinOK c r lo lo3 := by
    unfold WinOK
    rcases h3 with ⟨_, _, hb⟩ | ⟨hp, _, rfl⟩
    · obtain ⟨l, u, g⟩ := boundsForRow_ok ((strip_proj (boundsForRow lo · r) e3).symm.trans hb)
      rw [l, u]
      exact ⟨olo_absorb .., ohi_absorb .., g⟩
    · -- no bounds were applied, and there were none to apply
      obtain ⟨a1, a2⟩ := no_bound_aliases hwf hp
      rw [aliasBound, aliasBound, if_neg (not_not_intro a1), if_neg (not_not_intro a2)]
      exact ⟨rfl, rfl, rfl, fun h => absurd a1 h, fun h => absurd a2 h⟩
  -- applying them once more after the fifth changes nothing
  rcases h5 with ⟨_, _, hb⟩ | ⟨_, _, rfl⟩
  · obtain ⟨l, u, g, _⟩ := boundsForRow_ok ((strip_proj (boundsForRow lo3 · r) hs).symm.trans hb)
    unfold WinOK
    rw [l, u, g, b3.1, b3.2.1, olo_left_idem, ohi_left_idem]
    exact ⟨olo_absorb .., ohi_absorb .., b3.2.2⟩
  · exact b3

end BW.Proofs.Planner
