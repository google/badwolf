/-
The index invariant of the in-memory graph (`Inv`: every bucket a look-up reads is the projection of the master
index), its preservation by the `AddTriples` / `RemoveTriples` loops under the well-formedness of the regenerated
facts (`Facts.WF`), and the master index evolving as the specification's set.  For C01, C02, C09 and the planner.
-/
import BW.Model.Store
import BW.Spec.Store

namespace BW.Proofs.Store
open BW.Model BW.Spec

/-- One method: it reads a bucket that `AddTriples` writes and `RemoveTriples` deletes from, keyed by exactly the
    components it fixes, and no write or delete uses that index under another key shape. -/
def touchOK (F : Facts) (m : Method) : Bool :=
  match F.read m with
  | none => fixedParts m == []
  | some tc =>
    tc.parts == fixedParts m && F.addT.contains tc && F.remT.contains tc &&
    (F.addT ++ F.remT).all fun tc' => !(tc'.idx == tc.idx) || tc'.parts == tc.parts

def allMethods : List Method :=
  [.objects, .subjects, .predsForSO, .predsForS, .predsForO, .triplesForS, .triplesForP, .triplesForO,
   .triplesForSP, .triplesForPO, .triples]

/-- What the facts regenerated from memory.go's AST must say.  Trap: this is `BW.Proofs.Store.Facts.WF`, and `F.WF`
    does not elaborate. -/
def Facts.WF (F : Facts) : Bool :=
  F.addMaster && F.remMaster &&
  allMethods.all fun m => touchOK F m && (F.usesPred m == fixesPred m) && (F.filterPred m == fixesPred m)

theorem allMethods_complete (m : Method) : m ∈ allMethods := by cases m <;> decide +kernel

theorem wf_master {F : Facts} (h : Facts.WF F = true) : F.addMaster = true ∧ F.remMaster = true := by
  unfold Facts.WF at h
  simp only [Bool.and_eq_true] at h
  exact ⟨h.1.1, h.1.2⟩

theorem wf_method {F : Facts} (h : Facts.WF F = true) (m : Method) :
    touchOK F m = true ∧ F.usesPred m = fixesPred m ∧ F.filterPred m = fixesPred m := by
  unfold Facts.WF at h
  simp only [Bool.and_eq_true] at h
  have := List.all_eq_true.mp h.2 m (allMethods_complete m)
  simp only [Bool.and_eq_true, beq_iff_eq] at this
  exact ⟨this.1.1, this.1.2, this.2⟩

theorem reference_wf : Facts.WF Facts.reference = true := by decide +kernel

theorem key_eq_iff (t u : TView) :
    t.key = u.key ↔ t.ks = u.ks ∧ t.pid = u.pid ∧ t.pnano.map wrap64 = u.pnano.map wrap64 ∧ t.ko = u.ko := by
  simp only [TView.key, Prod.mk.injEq]

theorem keyOf_eq_of_key_eq {x t : TView} (h : x.key = t.key) (parts : List KeyPart) :
    keyOf parts x = keyOf parts t := by
  obtain ⟨h1, h2, _, h3⟩ := (key_eq_iff x t).mp h
  exact List.map_congr_left fun kp _ => by cases kp <;> assumption

/-- Removing `t` commutes with taking a bucket: whatever shares `t`'s identity key shares its index key. -/
theorem bucket_rem (parts : List KeyPart) (bk : List Bytes) (l : SGraph) (t : TView) :
    (l.rem t).filter (fun x => keyOf parts x == bk) =
      if keyOf parts t == bk then SGraph.rem (l.filter fun x => keyOf parts x == bk) t
      else l.filter fun x => keyOf parts x == bk := by
  rw [SGraph.rem, List.filter_filter]
  split
  · rw [SGraph.rem, List.filter_filter]; simp only [Bool.and_comm]
  · next hk =>
    refine List.filter_congr fun x _ => ?_
    by_cases hx : keyOf parts x == bk
    · have : x.key ≠ t.key := fun e => hk (keyOf_eq_of_key_eq e parts ▸ hx)
      simp [hx, this]
    · simp [hx]

theorem bucket_add (parts : List KeyPart) (bk : List Bytes) (l : SGraph) (t : TView) :
    (l.add t).filter (fun x => keyOf parts x == bk) =
      if keyOf parts t == bk then SGraph.add (l.filter fun x => keyOf parts x == bk) t
      else l.filter fun x => keyOf parts x == bk := by
  rw [SGraph.add, List.filter_cons, ← SGraph.rem, bucket_rem]
  split <;> rfl

def Inv (F : Facts) (g : Graph) : Prop :=
  ∀ m tc, F.read m = some tc → ∀ bk, g.sec tc.idx bk = g.master.filter (fun t => keyOf tc.parts t == bk)

theorem inv_empty (F : Facts) : Inv F Graph.empty := by
  intro m tc _ bk; simp [Graph.empty]

section
variable {F : Facts} (hF : Facts.WF F = true)
include hF

theorem read_facts {m : Method} {tc : Touch} (h : F.read m = some tc) :
    tc.parts = fixedParts m ∧ tc ∈ F.addT ∧ tc ∈ F.remT ∧
    ∀ tc' ∈ F.addT ++ F.remT, tc'.idx = tc.idx → tc'.parts = tc.parts := by
  have := (wf_method hF m).1
  unfold touchOK at this
  rw [h] at this
  simp only [Bool.and_eq_true, beq_iff_eq, List.contains_eq_mem, decide_eq_true_eq, List.all_eq_true,
    Bool.or_eq_true, Bool.not_eq_true'] at this
  obtain ⟨⟨⟨h1, h2⟩, h3⟩, h4⟩ := this
  refine ⟨h1, h2, h3, ?_⟩
  intro tc' hmem hidx
  rcases h4 tc' hmem with h | h
  · simp [hidx] at h
  · exact h

theorem read_none {m : Method} (h : F.read m = none) : fixedParts m = [] := by
  have := (wf_method hF m).1
  rwa [touchOK, h, beq_iff_eq] at this

/-- Decided by the method's own key: every other touch of the same index has the same key shape. -/
theorem touches_eq {m : Method} {tc : Touch} (h : F.read m = some tc) (ts : List Touch)
    (hts : tc ∈ ts) (hsub : ∀ x ∈ ts, x ∈ F.addT ++ F.remT) (bk : List Bytes) (t : TView) :
    touches ts tc.idx bk t = (keyOf tc.parts t == bk) := by
  obtain ⟨_, _, _, huniq⟩ := read_facts hF h
  rw [touches, Bool.eq_iff_iff, List.any_eq_true]
  constructor
  · rintro ⟨tc', hmem, h'⟩
    obtain ⟨hidx, hk⟩ := Bool.and_eq_true_iff.mp h'
    rwa [huniq tc' (hsub tc' hmem) (beq_iff_eq.mp hidx)] at hk
  · exact fun hk => ⟨tc, hts, Bool.and_eq_true_iff.mpr ⟨beq_self_eq_true _, hk⟩⟩

theorem inv_add1 {g : Graph} (hg : Inv F g) (t : TView) : Inv F (g.add1 F t) := by
  intro m tc hread bk
  have ht := touches_eq hF hread F.addT (read_facts hF hread).2.1 (fun x hx => List.mem_append_left _ hx) bk t
  simp only [Graph.add1, ht, (wf_master hF).1, if_true, hg m tc hread bk]
  exact (bucket_add ..).symm

theorem inv_rem1 {g : Graph} (hg : Inv F g) (t : TView) : Inv F (g.rem1 F t) := by
  intro m tc hread bk
  have ht := touches_eq hF hread F.remT (read_facts hF hread).2.2.1 (fun x hx => List.mem_append_right _ hx) bk t
  simp only [Graph.rem1, ht, (wf_master hF).2, if_true, hg m tc hread bk]
  exact (bucket_rem ..).symm

theorem inv_addAll {g : Graph} (hg : Inv F g) (ts : List TView) : Inv F (g.addAll F ts) :=
  List.foldlRecOn ts _ hg fun _ h t _ => inv_add1 hF h t

theorem inv_remAll {g : Graph} (hg : Inv F g) (ts : List TView) : Inv F (g.remAll F ts) :=
  List.foldlRecOn ts _ hg fun _ h t _ => inv_rem1 hF h t

end

theorem master_add1 {F : Facts} (hF : Facts.WF F = true) (g : Graph) (t : TView) :
    (g.add1 F t).master = SGraph.add g.master t := by
  simp [Graph.add1, (wf_master hF).1, SGraph.add]

theorem master_rem1 {F : Facts} (hF : Facts.WF F = true) (g : Graph) (t : TView) :
    (g.rem1 F t).master = SGraph.rem g.master t := by
  simp [Graph.rem1, (wf_master hF).2, SGraph.rem]

theorem master_addAll {F : Facts} (hF : Facts.WF F = true) (g : Graph) (ts : List TView) :
    (g.addAll F ts).master = SGraph.addAll g.master ts :=
  (List.foldl_hom Graph.master fun g t => (master_add1 hF g t).symm).symm

theorem master_remAll {F : Facts} (hF : Facts.WF F = true) (g : Graph) (ts : List TView) :
    (g.remAll F ts).master = SGraph.remAll g.master ts :=
  (List.foldl_hom Graph.master fun g t => (master_rem1 hF g t).symm).symm

end BW.Proofs.Store
