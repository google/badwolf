/-
Projection without GROUP BY (`projectAndGroupBy`, plain case): the planner reads every projected binding of
a row and then writes the aliases; every output column shows what the reference's simultaneous projection
shows, whatever the aliases are called (an alias may be spelled like a pattern binding: 1cfe61b).
-/
import BW.Proofs.Row
open BW.Model BW.Spec BW.Proofs.ClauseOrder

namespace BW.Proofs.Projection

theorem projectPlain_rows (ps : List Proj) (rows : List Row) :
    (rows.map (projectRow ps)) = rows.map fun r => ps.foldl (projStep r) r := rfl

section fold
variable {step : Row → Proj → Row} {key : Proj → Bytes} {val : Proj → Option Cell} (ps : List Proj)
  (hstep : ∀ out, ∀ p ∈ ps, ∀ k, (step out p).get k = if k = key p then val p else out.get k)
include hstep

theorem foldl_get_other (out : Row) (k : Bytes) (hk : ∀ p ∈ ps, key p ≠ k) : (ps.foldl step out).get k = out.get k :=
  Lists.foldl_keeps (·.get k) ps (fun o p hp => by rw [hstep o p hp, if_neg (Ne.symm (hk p hp))]) out

theorem foldl_get_key (out : Row) {p : Proj} (hp : p ∈ ps) (hsame : ∀ q ∈ ps, key q = key p → val q = val p) :
    (ps.foldl step out).get (key p) = val p := by
  induction ps generalizing out p with
  | nil => cases hp
  | cons q ps ih =>
    have hstep' := fun o x hx => hstep o x (List.mem_cons_of_mem q hx)
    rw [List.foldl_cons]
    by_cases hl : ∃ x ∈ ps, key x = key p
    · obtain ⟨x, hx, e⟩ := hl
      rw [← e, ih hstep' _ hx fun y hy ey => (hsame y (List.mem_cons_of_mem _ hy) (ey.trans e)).trans
        (hsame x (List.mem_cons_of_mem _ hx) e).symm]
      exact hsame x (List.mem_cons_of_mem _ hx) e
    · have hq : q = p := (List.mem_cons.mp hp).elim Eq.symm fun h => absurd ⟨p, h, rfl⟩ hl
      rw [foldl_get_other ps hstep' _ _ fun x hx e => hl ⟨x, hx, e⟩, hstep out q List.mem_cons_self, hq, if_pos rfl]

end fold

theorem projStep_get (r out : Row) (p : Proj) (k : Bytes) :
    (projStep r out p).get k = if k = p.alias then r.get p.binding else out.get k := by
  unfold projStep
  cases r.get p.binding with
  | none => exact Assoc.get_filter out p.alias k
  | some c => exact get_set out p.alias c k

def specStep (r : Row) (out : Row) (p : Proj) : Row :=
  if p.out = [] then out else out.set p.out ((r.get p.binding).getD .null)

theorem project_eq_foldl (ps : List Proj) (r : Row) : project ps r = ps.foldl (specStep r) [] := rfl

theorem specStep_get (r out : Row) (p : Proj) (h : p.out ≠ []) (k : Bytes) :
    (specStep r out p).get k = if k = p.out then some ((r.get p.binding).getD .null) else out.get k := by
  rw [specStep, if_neg h, get_set]

theorem out_of_alias (p : Proj) (h : p.alias ≠ []) : p.out = p.alias := by unfold Proj.out; simp [h]
theorem out_of_noalias (p : Proj) (h : p.alias = []) : p.out = p.binding := by unfold Proj.out; simp [h]

theorem out_ne_nil {ps : List Proj} (hb : ∀ p ∈ ps, p.binding ≠ []) {p : Proj} (hp : p ∈ ps) : p.out ≠ [] := by
  by_cases ha : p.alias = []
  · rw [out_of_noalias p ha]; exact hb p hp
  · rw [out_of_alias p ha]; exact ha

theorem project_get (ps : List Proj) (r : Row) (hb : ∀ p ∈ ps, p.binding ≠ []) (hn : (ps.map Proj.out).Nodup)
    {p : Proj} (hp : p ∈ ps) : (project ps r).get p.out = some ((r.get p.binding).getD .null) :=
  project_eq_foldl ps r ▸ foldl_get_key (key := Proj.out) (val := fun p => some ((r.get p.binding).getD .null)) ps
    (fun out q hq => specStep_get r out q (out_ne_nil hb hq)) [] hp
    fun q hq e => by rw [Lists.inj_of_nodup_map hn hq hp e]

theorem project_get_other (ps : List Proj) (r : Row) (hb : ∀ p ∈ ps, p.binding ≠ []) (k : Bytes)
    (hk : ∀ p ∈ ps, p.out ≠ k) : (project ps r).get k = none :=
  project_eq_foldl ps r ▸ foldl_get_other (key := Proj.out) (val := fun p => some ((r.get p.binding).getD .null)) ps
    (fun out q hq => specStep_get r out q (out_ne_nil hb hq)) [] k hk

/-- C03 `projection_is_simultaneous`. -/
theorem projection_spec (ps : List Proj) (r : Row) (hb : ∀ p ∈ ps, p.binding ≠ [])
    (hn : (ps.map Proj.out).Nodup) (hr : ∀ p ∈ ps, r.has p.binding = true) :
    ∀ p ∈ ps, (projectRow ps r).get p.out = (project ps r).get p.out := by
  intro p hp
  obtain ⟨c, hc⟩ := get_of_has (hr p hp)
  rw [project_get ps r hb hn hp, hc, Option.getD_some, ← hc]
  unfold projectRow
  by_cases ha : p.alias = []
  · -- no alias: the binding's own column, which no alias of another projection is written to
    rw [out_of_noalias p ha]
    refine foldl_get_other (key := Proj.alias) ps (fun out q _ => projStep_get r out q) r _ fun q hq e => ?_
    have hqa : q.alias ≠ [] := e ▸ hb p hp
    exact hqa (Lists.inj_of_nodup_map hn hq hp (by rw [out_of_alias q hqa, out_of_noalias p ha, e]) ▸ ha)
  · rw [out_of_alias p ha]
    refine foldl_get_key (key := Proj.alias) (val := fun p => r.get p.binding) ps (fun out q _ => projStep_get r out q) r hp
      fun q hq e => ?_
    rw [Lists.inj_of_nodup_map hn hq hp (by rw [out_of_alias p ha, out_of_alias q (e ▸ ha), e])]

theorem project_perm (ps ps' : List Proj) (hp : ps.Perm ps') (hn : (ps.map Proj.out).Nodup)
    (hb : ∀ p ∈ ps, p.binding ≠ []) (r : Row) (k : Bytes) :
    (project ps r).get k = (project ps' r).get k := by
  have hn' : (ps'.map Proj.out).Nodup := (hp.map Proj.out).nodup_iff.mp hn
  have hb' : ∀ p ∈ ps', p.binding ≠ [] := fun p h => hb p (hp.mem_iff.mpr h)
  by_cases hk : ∃ p ∈ ps, p.out = k
  · obtain ⟨p, hpm, rfl⟩ := hk
    rw [project_get ps r hb hn hpm, project_get ps' r hb' hn' (hp.mem_iff.mp hpm)]
  · rw [project_get_other ps r hb k fun p hpm e => hk ⟨p, hpm, e⟩,
      project_get_other ps' r hb' k fun p hpm e => hk ⟨p, hp.mem_iff.mpr hpm, e⟩]

theorem project_get_norm (ps : List Proj) (hb : ∀ p ∈ ps, p.binding ≠ []) (hn : (ps.map Proj.out).Nodup)
    {r x : Row} (e : RowEq r x) (p : Proj) (hp : p ∈ ps) :
    ((project ps r).get p.out).map normCell = ((project ps x).get p.out).map normCell := by
  rw [project_get ps r hb hn hp, project_get ps x hb hn hp]
  have := e p.binding
  cases h1 : r.get p.binding <;> cases h2 : x.get p.binding <;> simp [h1, h2] at this ⊢
  exact this

end BW.Proofs.Projection
