/-
No goroutine is left behind, for every number of items, channel capacity, point at which the consumer
loses interest and point at which the producer gives up — provided the consumer drains and the
producer closes on every path.  Without either, a leak is reachable (the defects D11 and D28: `C08.leak_if_*`).
-/
import BW.Model.Conc

namespace BW.Proofs.Conc
open BW.Model.Conc

/-- The communication steps of `commSteps` by kind, each with the guard of its `if` as a proposition. -/
inductive Comm (p : Policy) (s : PC) : PC → Prop
  | send : s.prodEnded = false ∧ 0 < s.toSend ∧ s.buf < s.cap → Comm p s { s with toSend := s.toSend - 1, buf := s.buf + 1 }
  | handOver : s.prodEnded = false ∧ 0 < s.toSend ∧ s.cap = 0 ∧ s.receiving p = true →
      Comm p s { s.takes with toSend := s.toSend - 1 }
  | close : s.prodEnded = false ∧ s.toSend = 0 → Comm p s { s with closed := true }
  | recv : s.receiving p = true ∧ 0 < s.buf → Comm p s { s.takes with buf := s.buf - 1 }
  | finish : s.done = false ∧ (s.want = 0 ∧ p.drains = false ∨ s.closed = true ∧ s.buf = 0) → Comm p s { s with done := true }

theorem mem_commSteps {p : Policy} {s t : PC} : t ∈ commSteps p s ↔ Comm p s t := by
  simp only [commSteps, List.mem_append, List.mem_ite_nil_right, List.mem_singleton, or_assoc, Bool.and_assoc, Bool.and_eq_true,
    Bool.or_eq_true, Bool.not_eq_true', decide_eq_true_eq]
  constructor
  · rintro (⟨h, rfl⟩ | ⟨h, rfl⟩ | ⟨h, rfl⟩ | ⟨h, rfl⟩ | ⟨h, rfl⟩)
    · exact .send h
    · exact .handOver h
    · exact .close h
    · exact .recv h
    · exact .finish h
  · rintro (h | h | h | h | h)
    · exact .inl ⟨h, rfl⟩
    · exact .inr (.inl ⟨h, rfl⟩)
    · exact .inr (.inr (.inl ⟨h, rfl⟩))
    · exact .inr (.inr (.inr (.inl ⟨h, rfl⟩)))
    · exact .inr (.inr (.inr (.inr ⟨h, rfl⟩)))

theorem mem_abortSteps {p : Policy} {s t : PC} : t ∈ abortSteps p s ↔ (s.prodEnded = false ∧ 0 < s.toSend) ∧
    t = if p.closesOnAbort = true then { s with toSend := 0, closed := true } else { s with toSend := 0, gone := true } := by
  simp only [abortSteps, List.mem_ite_nil_right, List.mem_singleton, Bool.and_eq_true, Bool.not_eq_true', decide_eq_true_eq,
    gt_iff_lt]

/-- `work` as a sum without `if`s, so that `omega` can compare it before and after a step. -/
theorem work_eq (s : PC) : work s = 2 * s.toSend + s.buf + (!s.prodEnded).toNat + (!s.done).toNat + s.want := by
  unfold work; cases s.prodEnded <;> cases s.done <;> rfl

theorem step_decreases (p : Policy) (s t : PC) (hm : t ∈ steps p s) : work t < work s := by
  rcases List.mem_append.mp hm with hm | hm
  · cases mem_commSteps.mp hm with
    | send h => simp only [work_eq, PC.prodEnded]; omega
    | handOver h => simp only [work_eq, PC.prodEnded, PC.takes]; omega
    | close h => simp only [PC.prodEnded] at h; simp [work_eq, PC.prodEnded, h.1]
    | recv h => simp only [work_eq, PC.prodEnded, PC.takes]; omega
    | finish h => simp [work_eq, PC.prodEnded, h.1]
  · obtain ⟨⟨hp, hs⟩, rfl⟩ := mem_abortSteps.mp hm
    simp only [PC.prodEnded] at hp
    split <;> simp [work_eq, PC.prodEnded, hp] <;> omega

/-- A draining consumer has ended only after the close, and a producer that closes when it gives up never ends
    without closing. -/
def Inv (p : Policy) (s : PC) : Prop :=
  (p.drains = true → s.done = true → s.closed = true) ∧ (p.closesOnAbort = true → s.gone = false)

theorem inv_init (p : Policy) (n cap want : Nat) : Inv p (init n cap want) :=
  ⟨fun _ h => (nomatch h), fun _ => rfl⟩

/-- `Inv` reads only `done`, `closed` and `gone`: the steps that move items keep it as it is. -/
theorem inv_step (p : Policy) (s t : PC) (hi : Inv p s) (hm : t ∈ steps p s) : Inv p t := by
  rcases List.mem_append.mp hm with hm | hm
  · cases mem_commSteps.mp hm with
    | send | handOver | recv => exact hi
    | close => exact ⟨fun _ _ => rfl, hi.2⟩
    | finish h =>
      refine ⟨fun hd _ => ?_, hi.2⟩
      rcases h.2 with ⟨_, hnd⟩ | ⟨hcl, _⟩
      · rw [hd] at hnd; cases hnd
      · exact hcl
  · obtain ⟨_, rfl⟩ := mem_abortSteps.mp hm
    split
    · exact ⟨fun _ _ => rfl, hi.2⟩
    · exact ⟨hi.1, fun hc => absurd hc ‹_›⟩

theorem inv_reach (p : Policy) (s t : PC) (hi : Inv p s) (h : Reach p s t) : Inv p t := by
  induction h with
  | refl => exact hi
  | step t u _ hu ih => exact inv_step p t u ih hu

theorem progress (p : Policy) (hd : p.drains = true) (hc : p.closesOnAbort = true) (s : PC) (hi : Inv p s)
    (hnf : s.final = false) : stuck p s = false := by
  suffices ∃ t, Comm p s t by
    obtain ⟨t, ht⟩ := this
    exact List.isEmpty_eq_false_iff_exists_mem.mpr ⟨t, mem_commSteps.mpr ht⟩
  have hg : s.gone = false := hi.2 hc
  cases hcl : s.closed with
  | true =>
    -- the producer has ended, so the consumer has not: it takes what is left, then sees the closed channel
    have hdone : s.done = false := by simpa [PC.final, PC.prodEnded, hcl] using hnf
    rcases Nat.eq_zero_or_pos s.buf with hb | hb
    · exact ⟨_, .finish ⟨hdone, .inr ⟨hcl, hb⟩⟩⟩
    · exact ⟨_, .recv ⟨by simp [PC.receiving, hdone, hd], hb⟩⟩
  | false =>
    have hp : s.prodEnded = false := by simp [PC.prodEnded, hcl, hg]
    -- a draining consumer ends only on the closed channel, so it is still receiving
    have hdone : s.done = false := by
      cases h : s.done with
      | false => rfl
      | true => rw [hi.1 hd h] at hcl; cases hcl
    have hr : s.receiving p = true := by simp [PC.receiving, hdone, hd]
    rcases Nat.eq_zero_or_pos s.toSend with hs | hs
    · exact ⟨_, .close ⟨hp, hs⟩⟩
    · by_cases hroom : s.buf < s.cap
      · exact ⟨_, .send ⟨hp, hs, hroom⟩⟩
      · rcases Nat.eq_zero_or_pos s.cap with hcap | hcap
        · exact ⟨_, .handOver ⟨hp, hs, hcap, hr⟩⟩
        · exact ⟨_, .recv ⟨hr, by omega⟩⟩

theorem leaked_eq_false {p : Policy} {s : PC} : leaked p s = false ↔ (stuck p s = true → s.final = true) := by
  unfold leaked; cases stuck p s <;> cases s.final <;> decide

theorem no_goroutine_left (p : Policy) (hd : p.drains = true) (hc : p.closesOnAbort = true) (n cap want : Nat) (s : PC)
    (h : Reach p (init n cap want) s) : leaked p s = false ∧ (stuck p s = true → s.final = true) := by
  have hfin : stuck p s = true → s.final = true := fun hstuck => by
    cases hf : s.final with
    | true => rfl
    | false => rw [progress p hd hc s (inv_reach p _ s (inv_init p n cap want) h) hf] at hstuck; cases hstuck
  exact ⟨leaked_eq_false.mpr hfin, hfin⟩

/-- With `step_decreases`: an execution from `s` has at most `work s` steps (no livelock). -/
theorem reach_work (p : Policy) (s t : PC) (h : Reach p s t) : work t ≤ work s := by
  induction h with
  | refl => exact Nat.le_refl _
  | step t u _ hu ih => exact Nat.le_of_lt (Nat.lt_of_lt_of_le (step_decreases p t u hu) ih)

end BW.Proofs.Conc
