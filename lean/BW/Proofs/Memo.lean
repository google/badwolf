/-
The memoizer is transparent (C19): sequentially, and under every interleaving of readers and writers
at its internal steps — provided the key determines the answer, results are memoized only when no
reset happened since the lookup began, and updates reset again after they were forwarded.
-/
import BW.Model.Memo
import BW.Proofs.Lists

namespace BW.Proofs.Memo
open BW.Model.Memo
open BW.Proofs.Lists (all_set_of_getElem?)

variable {W Q A U K : Type} [DecidableEq K]

def KeyDetermines (E : Env W Q A U K) : Prop := ∀ w q q', E.key q = E.key q' → E.ans w q = E.ans w q'

/-- On a system this is the model's `Sys.cacheCurrent` (same body). -/
def Current (E : Env W Q A U K) (w : W) (c : K → Option A) : Prop :=
  ∀ k a, c k = some a → ∀ q, E.key q = k → a = E.ans w q

omit [DecidableEq K] in
theorem Current.empty (E : Env W Q A U K) (w : W) : Current E w fun _ => none :=
  fun _ _ h => nomatch h

/-- This is where the key has to determine the answer. -/
theorem Current.store {E : Env W Q A U K} (hk : KeyDetermines E) {w : W} {c : K → Option A} (h : Current E w c) (q : Q) :
    Current E w fun k => if k = E.key q then some (E.ans w q) else c k := by
  intro k a hka q' hq'
  by_cases hkk : k = E.key q
  · simp only [hkk, if_true, Option.some.injEq] at hka
    exact hka ▸ hk w q q' (hq'.trans hkk).symm
  · simp only [hkk, if_false] at hka
    exact h k a hka q' hq'

theorem seq_read (E : Env W Q A U K) (hk : KeyDetermines E) (s : Seq W K A) (hi : Current E s.inner s.cache) (q : Q) :
    (s.read E q).1 = E.ans s.inner q ∧ (s.read E q).2.inner = s.inner ∧ Current E s.inner (s.read E q).2.cache := by
  unfold Seq.read
  cases hc : s.cache (E.key q) with
  | some a => exact ⟨hi _ _ hc q rfl, rfl, hi⟩
  | none => exact ⟨rfl, rfl, hi.store hk q⟩

theorem seq_transparent (E : Env W Q A U K) (hk : KeyDetermines E) (ops : List (Op Q U)) (s : Seq W K A)
    (hi : Current E s.inner s.cache) : Seq.run E s ops = direct E s.inner ops := by
  induction ops generalizing s with
  | nil => rfl
  | cons op ops ih =>
    cases op with
    | read q =>
      obtain ⟨h1, h2, h3⟩ := seq_read E hk s hi q
      simp only [Seq.run, direct]
      rw [ih _ (h2 ▸ h3), h1, h2]
    | write u => exact ih _ (Current.empty E _)

def good : Policy := ⟨true, true⟩

theorem all_set (l : List (Thread Q A U)) (i : Nat) (t' : Thread Q A U)
    (h : l.all (fun t => !t.midUpdate) = true) (ht' : t'.midUpdate = false) :
    (l.set i t').all (fun t => !t.midUpdate) = true := by
  rw [List.all_eq_true] at h ⊢
  intro x hx
  rcases List.mem_or_eq_of_mem_set hx with hx | rfl
  · exact h x hx
  · simp [ht']

/-- A lookup between its miss and its store: the generation it remembers is not ahead, and what it fetched is current
    as long as no reset has happened since (and no update is between forwarding and closing reset). -/
def ThreadOk (E : Env W Q A U K) (s : Sys W Q A U K) : Thread Q A U → Prop
  | .reader _ (.missed g) => g ≤ s.gen
  | .reader q (.fetched g a) => g ≤ s.gen ∧ (s.settled = true → g = s.gen → a = E.ans s.inner q)
  | _ => True

structure Inv (E : Env W Q A U K) (s : Sys W Q A U K) : Prop where
  cache : s.settled = true → Current E s.inner s.cache
  threads : ∀ t ∈ s.threads, ThreadOk E s t

section
variable {E : Env W Q A U K} {s : Sys W Q A U K}

omit [DecidableEq K] in
theorem ThreadOk.frame {s' : Sys W Q A U K} (hg : s.gen ≤ s'.gen)
    (hs : s'.settled = true → s'.gen = s.gen → s.settled = true ∧ s'.inner = s.inner) {t : Thread Q A U}
    (h : ThreadOk E s t) : ThreadOk E s' t := by
  cases t with
  | writer => trivial
  | reader q ph =>
    cases ph with
    | init | done => trivial
    | missed g => exact Nat.le_trans h hg
    | fetched g a =>
      refine ⟨Nat.le_trans h.1 hg, fun hs' hg' => ?_⟩
      have heq : s'.gen = s.gen := Nat.le_antisymm (hg' ▸ h.1) hg
      obtain ⟨hset, hin⟩ := hs hs' heq
      exact hin ▸ h.2 hset (hg'.trans heq)

omit [DecidableEq K] in
theorem Inv.update (hi : Inv E s) (i : Nat) (t' : Thread Q A U) (w : W) (g : Nat)
    (c : K → Option A) (hg : s.gen ≤ g)
    (hs : Sys.settled ⟨w, g, c, s.threads.set i t'⟩ = true → g = s.gen → s.settled = true ∧ w = s.inner)
    (hc : Sys.settled ⟨w, g, c, s.threads.set i t'⟩ = true → Current E w c)
    (ht' : ThreadOk E ⟨w, g, c, s.threads.set i t'⟩ t') : Inv E ⟨w, g, c, s.threads.set i t'⟩ := by
  refine ⟨hc, fun t ht => ?_⟩
  rcases List.mem_or_eq_of_mem_set ht with ht | rfl
  · exact (hi.threads t ht).frame hg hs
  · exact ht'

omit [DecidableEq K] in
/-- When the moving thread was not in the middle of an update, a state settled afterwards was settled before. -/
theorem settled_of_set {i : Nat} {t t' : Thread Q A U} {w : W} {g : Nat} {c : K → Option A}
    (hti : s.threads[i]? = some t) (ht : (!t.midUpdate) = true) (hs : Sys.settled ⟨w, g, c, s.threads.set i t'⟩ = true) :
    (!t'.midUpdate) = true ∧ s.settled = true := by
  rwa [Sys.settled, all_set_of_getElem? t' hti ht, Bool.and_eq_true] at hs

omit [DecidableEq K] in
/-- A lookup moves: the wrapped store and the generation stay. -/
theorem Inv.reader (hi : Inv E s) {i : Nat} {t : Thread Q A U}
    (hti : s.threads[i]? = some t) (ht : (!t.midUpdate) = true) (t' : Thread Q A U) (c : K → Option A)
    (hc : s.settled = true → Current E s.inner c) (ht' : ThreadOk E ⟨s.inner, s.gen, c, s.threads.set i t'⟩ t') :
    Inv E ⟨s.inner, s.gen, c, s.threads.set i t'⟩ :=
  hi.update i t' _ _ c (Nat.le_refl _) (fun hs _ => ⟨(settled_of_set hti ht hs).2, rfl⟩)
    (fun hs => hc (settled_of_set hti ht hs).2) ht'

omit [DecidableEq K] in
/-- A reset: nothing is memoized, and what lookups in flight have fetched will not be. -/
theorem Inv.reset (hi : Inv E s) (i : Nat) (u : U) (ph : WPhase) :
    Inv E ⟨s.inner, s.gen + 1, fun _ => none, s.threads.set i (.writer u ph)⟩ :=
  hi.update i _ _ _ _ (Nat.le_succ _) (fun _ h => absurd h (Nat.succ_ne_self _)) (fun _ => Current.empty E _) trivial

theorem step_eq_some {P : Policy} {s' : Sys W Q A U K} {i : Nat} (h : s.step P E i = some s') :
    ∃ t t' w g c, s.threads[i]? = some t ∧ stepThread P E s t = some (t', w, g, c) ∧ s' = ⟨w, g, c, s.threads.set i t'⟩ := by
  revert h
  fun_cases Sys.step P E s i <;> intro h <;> cases h
  exact ⟨_, _, _, _, _, ‹_›, ‹_›, rfl⟩

theorem inv_step (E : Env W Q A U K) (hk : KeyDetermines E) (s s' : Sys W Q A U K) (i : Nat)
    (hi : Inv E s) (h : s.step good E i = some s') : Inv E s' := by
  obtain ⟨t, t', w, g, c, hti, hstep, rfl⟩ := step_eq_some h
  revert hstep
  fun_cases stepThread good E s t <;> intro hstep <;> cases hstep
  case case1 q a hc => exact hi.reader hti rfl _ _ hi.cache trivial  -- hit
  case case2 q hc => exact hi.reader hti rfl _ _ hi.cache (Nat.le_refl _)  -- miss
  case case3 q g0 =>  -- fetch
    exact hi.reader hti rfl _ _ hi.cache ⟨hi.threads _ (List.mem_of_getElem? hti), fun _ _ => rfl⟩
  case case4 q g0 a0 store =>  -- memoize, if no reset since
    refine hi.reader hti rfl _ _ (fun hsett => ?_) trivial
    by_cases hg : g0 = s.gen
    · have ha : a0 = E.ans s.inner q := (hi.threads _ (List.mem_of_getElem? hti)).2 hsett hg
      simp only [store, good, hg, beq_self_eq_true, Bool.or_true, if_true]
      exact ha ▸ Current.store hk (hi.cache hsett) q
    · simp only [store, good, Bool.not_true, Bool.false_or, beq_iff_eq, hg, if_false]
      exact hi.cache hsett
  case case6 u => exact hi.reset i u _  -- first reset
  case case7 u =>  -- forward: unsettled until the closing reset
    exact hi.update i _ _ _ _ (Nat.le_refl _) (fun hs => nomatch (settled_of_set hti rfl hs).1)
      (fun hs => nomatch (settled_of_set hti rfl hs).1) trivial
  case case8 u _ => exact hi.reset i u _  -- closing reset
  case case9 u hn => exact absurd rfl hn  -- not `good`

end

def fresh (w : W) (ths : List (Thread Q A U)) : Sys W Q A U K := { inner := w, gen := 0, cache := fun _ => none, threads := ths }

def NotStarted : Thread Q A U → Prop
  | .reader _ .init => True
  | .writer _ .init => True
  | _ => False

omit [DecidableEq K] in
theorem inv_fresh (E : Env W Q A U K) (w : W) (ths : List (Thread Q A U)) (h : ∀ t ∈ ths, NotStarted t) :
    Inv E (fresh (K := K) w ths) := by
  refine ⟨fun _ => Current.empty E w, fun t ht => ?_⟩
  cases t with
  | writer => trivial
  | reader q ph =>
    cases ph with
    | init | done => trivial
    | missed | fetched => exact (h _ ht).elim

theorem inv_reach (E : Env W Q A U K) (hk : KeyDetermines E) (s t : Sys W Q A U K) (hi : Inv E s) (h : Reach good E s t) : Inv E t := by
  induction h with
  | refl => exact hi
  | step t u i _ hs ih => exact inv_step E hk t u i ih hs

/-- Whenever no update is between its forwarding and its closing reset, everything memoized is what the wrapped
    store answers now — so a lookup that starts then returns the current answer, hit or miss. -/
theorem interleaved_transparent (E : Env W Q A U K) (hk : KeyDetermines E) (w : W) (ths : List (Thread Q A U))
    (h0 : ∀ t ∈ ths, NotStarted t) (s : Sys W Q A U K) (h : Reach good E (fresh w ths) s) (hs : s.settled = true) :
    s.cacheCurrent E :=
  (inv_reach E hk _ s (inv_fresh E w ths h0) h).cache hs

/-- `true`: one memoizer per graph. -/
theorem multi_transparent (E : Env W Q A U K) (hk : KeyDetermines E) (ops : List (HOp Q U)) (s : Multi W K A)
    (hi : Current E s.inner (s.caches 0)) : Multi.run true E s ops = directH E s.inner ops := by
  induction ops generalizing s with
  | nil => rfl
  | cons op ops ih =>
    cases op with
    | read h q =>
      simp only [Multi.run, directH, slot, if_true]
      cases hc : s.caches 0 (E.key q) with
      | some a => simp only; rw [hi _ _ hc q rfl, ih s hi]
      | none =>
        simp only
        rw [ih]
        simpa using hi.store hk q
    | write h u =>
      simp only [Multi.run, directH, slot, if_true]
      rw [ih]
      exact Current.empty E _

end BW.Proofs.Memo
