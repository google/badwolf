/-
The token lists and runs over which C03, C11 and C12 state that the head of a SELECT means what its tokens say
(`varAccumulator` + the flush at the end of WHERE, `inputGraphAccumulator`, `groupByBindings`, `limitCollection`,
`collectGlobalBounds`); the one lemma that takes work is `one_proj`.
-/
import BW.Model.Hooks
open BW.Model BW.Model.Hooks

namespace BW.Proofs.HooksHead

/-- A projection as written: `?b`, `?b as ?a`, `count(?b) as ?a`, `count(distinct ?b) as ?a`, `sum(?b) as ?a`. -/
inductive PAst where
  | plain (b : Bytes)
  | aliased (b a : Bytes)
  | count (b a : Bytes) (distinct : Bool)
  | sum (b a : Bytes)

def tk (k : HK) (text : Bytes := []) : HTk := { k := k, text := text }

def PAst.toks : PAst → List HTk
  | .plain b => [tk .binding b]
  | .aliased b a => [tk .binding b, tk .as_, tk .binding a]
  | .count b a d => [tk .count, tk .other] ++ (if d then [tk .distinct] else []) ++
      [tk .binding b, tk .other, tk .as_, tk .binding a]
  | .sum b a => [tk .sum, tk .other, tk .binding b, tk .other, tk .as_, tk .binding a]

def PAst.denote : PAst → Proj
  | .plain b => { binding := b }
  | .aliased b a => { binding := b, alias := a }
  | .count b a d => { binding := b, alias := a, op := .count, distinct := d }
  | .sum b a => { binding := b, alias := a, op := .sum }

/-- Bindings are never empty (the lexer's BINDING token starts with `?`). -/
def PAst.ok : PAst → Prop
  | .plain b => b ≠ []
  | .aliased b _ => b ≠ []
  | .count b _ _ => b ≠ []
  | .sum b _ => b ≠ []

def listToks : List PAst → List HTk
  | [] => []
  | [p] => p.toks
  | p :: q :: rest => p.toks ++ tk .comma :: listToks (q :: rest)

def varRun : Head → Option HK → List HTk → Option (Head × Option HK)
  | h, l, [] => some (h, l)
  | h, l, t :: rest => match varStep h l t with
    | none => none
    | some (h', l') => varRun h' l' rest

def emptyProj : Proj := { binding := [] }

theorem flush_clean (h : Head) (hw : h.wproj = emptyProj) : h.flush = h := by
  unfold Head.flush
  rw [hw]; simp [projIsEmpty, emptyProj]

/-- Stated up to a flush (an alias flushes at once, a plain binding does not) and with the tokens still to come
    (`k`), so that it chains by rewriting. -/
theorem one_proj (h : Head) (hw : h.wproj = emptyProj) (p : PAst) (hp : p.ok) :
    ∃ h', (∀ k, varRun h none (p.toks ++ k) = varRun h' none k) ∧
      h'.flush = { h with projs := h.projs ++ [p.denote] } := by
  -- `varStep` and `flush` branch on `h.wproj`; after `rw [e]` that field is the literal `emptyProj` and they compute
  have e : h = { h with wproj := emptyProj } := by rw [← hw]
  have hb : p.denote.binding ≠ [] := by cases p <;> exact hp
  have hf : ({ h with wproj := p.denote } : Head).flush = { h with projs := h.projs ++ [p.denote] } := by
    rw [e]; simp [Head.flush, projIsEmpty, hb, emptyProj]
  rcases p with b | ⟨b, a⟩ | ⟨b, a, _ | _⟩ | ⟨b, a⟩
  · exact ⟨_, fun _ => by rw [e]; rfl, hf⟩
  all_goals
    refine ⟨_, fun k => ?_, (congrArg Head.flush hf).trans (flush_clean _ hw)⟩
    rw [e]; simp [PAst.toks, PAst.denote, varRun, varStep, tk, show b ≠ [] from hp, emptyProj]

def optRun {σ : Type} (step : σ → HTk → Option σ) : σ → List HTk → Option σ
  | s, [] => some s
  | s, t :: rest => match step s t with
    | none => none
    | some s' => optRun step s' rest

def commaToks : List Bytes → List HTk
  | [] => []
  | [g] => [tk .binding g]
  | g :: g' :: rest => tk .binding g :: tk .comma :: commaToks (g' :: rest)

def intTk (n : Int) : HTk := { k := .literal, obj := some (.lit (.int n)) }

def boundsRun : Head → BState → List HTk → Option (Head × BState)
  | h, b, [] => some (h, b)
  | h, b, t :: rest => match boundsStep h b t with
    | none => none
    | some (h', b') => boundsRun h' b' rest

def timeTk (t : Time) : HTk := { k := .time, time := some t }
def pairTk (lo hi : Time) : HTk := { k := .predicateBound, pair := some (lo, hi) }

end BW.Proofs.HooksHead
