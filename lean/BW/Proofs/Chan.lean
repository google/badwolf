import BW.Model.Chan

/-! A look-up that sends under the read lock, its consumer and a writer (C07). "Halt": nobody can move (`Sys.stuck`)
    though somebody has not finished; under `Inv` that is one configuration, `stuck_cases` (D37). -/
namespace BW.Model.Chan

/-- The consumer ends only after the look-up, and a consumer that only drains (`b = 0`) is never between two reads. -/
def Inv (s : Sys) : Prop :=
  (s.c = .done → s.p = .done) ∧ (s.b = 0 → s.c = .waitRecv ∨ s.c = .done)

theorem inv_start (n b : Nat) : Inv (start n b) :=
  ⟨nofun, fun _ => .inl rfl⟩

theorem not_reading {s : Sys} (h : Inv s) (hb : s.b = 0) {r : Nat} (hc : s.c = .wantRead r ∨ s.c = .inRead r) : False := by
  rcases h.2 hb with h | h <;> rw [h] at hc <;> rcases hc with hc | hc <;> cases hc

theorem inv_step {s s' : Sys} {t : Tid} (h : Inv s) (hs : step s t = some s') : Inv s' := by
  have ⟨h1, h2⟩ := h
  revert hs
  fun_cases step s t <;> intro hs <;> cases hs
  case case1 hp _ => exact ⟨fun hc => (nomatch (h1 hc).symm.trans hp), h2⟩  -- look-up locks
  case case3 => exact ⟨fun _ => rfl, h2⟩  -- look-up closes
  case case4 =>  -- hand-over
    refine ⟨fun hc => ?_, fun hb => .inl (if_pos hb)⟩
    dsimp only at hc; split at hc <;> cases hc
  case case7 hp => exact ⟨fun _ => hp, fun _ => .inr rfl⟩  -- consumer sees the close
  case case9 hc _ => exact ⟨nofun, fun hb => (not_reading h hb (.inl hc)).elim⟩  -- consumer locks
  case case11 hc =>  -- consumer unlocks
    refine ⟨fun hc' => ?_, fun hb => (not_reading h hb (.inr hc)).elim⟩
    dsimp only at hc'; split at hc' <;> cases hc'
  case case13 | case14 | case16 => exact ⟨h1, h2⟩  -- the writer's steps

theorem step_keeps {s s' : Sys} {t : Tid} (hs : step s t = some s') : s'.b = s.b ∧ (s.w = .done → s'.w = .done) := by
  revert hs
  fun_cases step s t <;> intro hs <;> cases hs
  -- writer not done
  case case13 hw | case14 hw _ | case16 hw => exact ⟨rfl, fun h => nomatch (h.symm.trans hw)⟩
  all_goals exact ⟨rfl, id⟩

attribute [local simp] step Sys.canRead Sys.canWrite Sys.readers Sys.writerHolds Sys.writerWaits in
/-- The only way to a halt (D37): the look-up waits for its consumer, the consumer for the read lock, which the
    waiting writer bars, and the writer for the look-up. Every other control state is refuted by the thread that can
    move in it, against `hp`, `hc` or `hw`. -/
theorem stuck_cases {s : Sys} (h : Inv s) (hs : s.stuck = true) :
    s.finished = true ∨ ∃ k r, s.p = .sending (k + 1) ∧ s.c = .wantRead r ∧ s.w = .pending := by
  obtain ⟨h1, -⟩ := h
  simp only [Sys.stuck, Bool.and_eq_true, Option.isNone_iff_eq_none] at hs
  obtain ⟨⟨hp, hc⟩, hw⟩ := hs
  rcases hwv : s.w with _ | _ | _ | _
  · simp [hwv] at hw
  · -- the writer waits, so somebody reads: not the consumer, which could go on
    rcases hcv : s.c with _ | r | r | _
    · rcases hpv : s.p with _ | k | _
      · simp [hwv, hpv, hcv] at hw
      · cases k <;> simp [hpv, hcv] at hp
      · simp [hpv, hcv] at hc
    · rcases hpv : s.p with _ | k | _
      · simp [hwv, hpv, hcv] at hw
      · cases k with
        | zero => simp [hpv] at hp
        | succ k => exact .inr ⟨k, r, rfl, rfl, rfl⟩
      · simp [hwv, hpv, hcv] at hw
    · simp [hcv] at hc
    · simp [hwv, h1 hcv, hcv] at hw
  · simp [hwv] at hw
  · -- no writer: whoever wants the read lock gets it
    rcases hcv : s.c with _ | r | r | _
    · rcases hpv : s.p with _ | k | _
      · simp [hpv, hwv] at hp
      · cases k <;> simp [hpv, hcv] at hp
      · simp [hpv, hcv] at hc
    · simp [hcv, hwv] at hc
    · simp [hcv] at hc
    · exact .inl (by simp [Sys.finished, h1 hcv, hcv, hwv])

/-- That configuration is reached as soon as there are two results, a consumer that reads and a writer arriving after
    the first hand-over. -/
theorem reading_consumer_halts (n b : Nat) :
    (run (start (n + 2) (b + 1)) [.p, .p, .w]).stuck = true ∧ (run (start (n + 2) (b + 1)) [.p, .p, .w]).finished = false := by
  have h : run (start (n + 2) (b + 1)) [.p, .p, .w] = ⟨n + 2, b + 1, .sending (n + 1), .wantRead (b + 1), .pending⟩ := rfl
  rw [h]; exact ⟨rfl, rfl⟩

/-- A consumer that only drains and a writer that has returned both exclude the one halting configuration, and both
    are kept by every step. -/
theorem never_halts {s : Sys} (h : Inv s) (hc : s.b = 0 ∨ s.w = .done) (ts : List Tid) :
    (run s ts).finished = true ∨ (run s ts).stuck = false := by
  induction ts generalizing s with
  | nil =>
    rw [run]
    cases hs : s.stuck with
    | false => exact .inr rfl
    | true =>
      refine (stuck_cases h hs).imp_right fun ⟨_, r, _, hcr, hw⟩ => ?_
      exact hc.elim (fun hb => (not_reading h hb (.inl hcr)).elim) fun hd => nomatch hd.symm.trans hw
  | cons t ts ih =>
    rw [run]
    cases hs : step s t with
    | none => exact ih h hc
    | some s' => exact ih (inv_step h hs) (hc.imp (step_keeps hs).1.trans (step_keeps hs).2)

theorem canHalt_sound (fuel : Nat) (fr : List Sys) (h : canHalt fuel fr = true) :
    ∃ s ∈ fr, ∃ sched, (run s sched).stuck = true ∧ (run s sched).finished = false := by
  induction fuel generalizing fr with
  | zero => simp [canHalt] at h
  | succ f ih =>
    simp only [canHalt, Bool.or_eq_true, List.any_eq_true, Bool.and_eq_true, Bool.not_eq_true'] at h
    rcases h with ⟨s, hs, h1, h2⟩ | h
    · exact ⟨s, hs, [], h1, h2⟩
    · obtain ⟨s', hs', sched, hr⟩ := ih _ h
      obtain ⟨s, hs, hsucc⟩ := List.mem_flatMap.mp (List.mem_eraseDups.mp hs')
      simp only [successors, List.mem_filterMap] at hsucc
      obtain ⟨t, _, ht⟩ := hsucc
      refine ⟨s, hs, t :: sched, ?_⟩
      simpa [run, ht] using hr

end BW.Model.Chan
