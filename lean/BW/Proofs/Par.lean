/-
`specifyClauseWithTable` starts one goroutine per row; each computes the rows that replace its row and adds
them to the shared table through `Table.AddRow`, which holds the table's mutex. Small-step model: the threads'
rows are appended one at a time in any interleaving. Whatever the schedule, the table ends up holding a
permutation of what the sequential loop produces.
-/
namespace BW.Proofs.Par

variable {α : Type}

/-- One atomic `AddRow`: some thread that still has rows appends its next one. -/
inductive Step : List α × List (List α) → List α × List (List α) → Prop
  | add (tbl : List α) (pre : List (List α)) (x : α) (xs : List α) (post : List (List α)) :
      Step (tbl, pre ++ (x :: xs) :: post) (tbl ++ [x], pre ++ xs :: post)

inductive Run : List α × List (List α) → List α × List (List α) → Prop
  | refl (s) : Run s s
  | step {s t u} : Step s t → Run t u → Run s u

def Done (s : List α × List (List α)) : Prop := ∀ l ∈ s.2, l = []

theorem step_inv {s t : List α × List (List α)} (h : Step s t) : (t.1 ++ t.2.flatten).Perm (s.1 ++ s.2.flatten) := by
  cases h with
  | add tbl pre x xs post =>
    simp only [List.flatten_append, List.flatten_cons, List.append_assoc, List.cons_append, List.nil_append]
    exact List.perm_middle.symm.append_left tbl

theorem run_inv {s t : List α × List (List α)} (h : Run s t) : (t.1 ++ t.2.flatten).Perm (s.1 ++ s.2.flatten) := by
  induction h with
  | refl s => exact List.Perm.refl _
  | step hs _ ih => exact ih.trans (step_inv hs)

end BW.Proofs.Par
