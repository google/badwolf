/-
The look-up pipeline equals its declarative definition (`lookup_eq_scan`: C09, `StoreRefine`; read without paging,
filter function and `LatestAnchor`, `lookup_unpaged`: C02, the planner's `Fetch`).  The bucket key sees only the
identifier of a fixed predicate and the checker makes up for kind and anchor; the pager is drop / take.
-/
import BW.Proofs.Store

namespace BW.Proofs.Lookup
open BW.Model BW.Spec BW.Proofs.Store

theorem toNat_of_pos {z : Int} (h : 0 < z) : z.toNat = (z - 1).toNat + 1 := by omega

theorem emit_eq (mx : Bool) (ps pad : Int) (l : List TView) :
    emit ⟨mx, ps, pad⟩ l = if mx then (l.drop pad.toNat).take ps.toNat else l.drop pad.toNat := by
  induction l generalizing ps pad with
  | nil => cases mx <;> simp [emit]
  | cons t ts ih =>
    rw [emit, Pager.step]
    by_cases hstop : mx = true ∧ ps ≤ 0
    · obtain ⟨rfl, hps⟩ := hstop
      simp [hps, ih, Int.toNat_of_nonpos hps]
    · simp only [Bool.and_eq_true, decide_eq_true_eq, hstop, if_false]
      by_cases hpad : pad > 0
      · simp only [hpad, if_true, Bool.false_eq_true, if_false, ih]
        rw [toNat_of_pos hpad, List.drop_succ_cons]
      · simp only [hpad, if_false, if_true, ih, Int.toNat_of_nonpos (Int.not_lt.mp hpad), List.drop_zero]
        cases mx
        · rfl
        · rw [if_pos rfl, if_pos rfl, toNat_of_pos (Int.not_le.mp fun h => hstop ⟨rfl, h⟩), List.take_succ_cons]

/-- The excluded corner — page size and offset both negative — is where the Go code skips `n*k` elements of an
    unpaged result. -/
theorem checker_is_page (lo : LookupOpts) (l : List TView)
    (h : 0 < lo.maxElements ∨ lo.maxElements * lo.offset ≤ 0) :
    emit (Pager.new lo) l = page lo.maxElements lo.offset l := by
  rw [Pager.new, emit_eq, page]
  by_cases hn : lo.maxElements > 0
  · simp [hn, Int.not_le.mpr hn]
  · simp [hn, Int.not_lt.mp hn, Int.toNat_of_nonpos (h.resolve_left hn)]

theorem inWindow_unbounded {lo : LookupOpts} (hl : lo.lower = none) (hu : lo.upper = none) (t : TView) : inWindow lo t = true := by
  unfold inWindow
  rw [hl, hu]
  cases t.pnano <;> rfl

theorem not_gt_eq_le (a u : Int) : (!decide (a > u)) = decide (a ≤ u) := by
  simp only [← decide_not, gt_iff_lt, Int.not_lt]

theorem checkBounds_eq (q : Option PQ) (lo : LookupOpts) (t : TView) :
    checkBounds q lo t = (q.all (·.pnano == t.pnano) && inWindow lo t) := by
  unfold checkBounds inWindow
  -- `simp` leaves the two definitions' own `match`es on the bounds: different constants, equal bodies
  rcases q with _ | ⟨_, _ | qa, _⟩ <;> cases t.pnano <;> simp [not_gt_eq_le, Bool.and_assoc] <;> rfl

def partOK (a : LArgs) (t : TView) : KeyPart → Bool
  | .s => t.ks == a.s
  | .o => t.ko == a.o
  | .p => match a.p with
    | some q => predMatches q t
    | none => false

theorem matchesArgs_eq (m : Method) (a : LArgs) (t : TView) :
    matchesArgs m a t = (fixedParts m).all (partOK a t) := rfl

/-- For the predicate, kind and anchor are the part of `predMatches` the bucket key does not see. -/
theorem partOK_iff {a : LArgs} {kp : KeyPart} (h : kp = .p → a.p.isSome = true) (t : TView) :
    partOK a t kp = true ↔
      KeyPart.of t kp = a.part kp ∧ (kp = .p → a.p.all (·.pnano == t.pnano) = true) := by
  cases kp with
  | p =>
    obtain ⟨q, hq⟩ := Option.isSome_iff_exists.mp (h rfl)
    simp [partOK, hq, predMatches, KeyPart.of, LArgs.part, eq_comm (a := t.pid)]
  | _ => simp [partOK, KeyPart.of, LArgs.part]

theorem keyOf_beq (parts : List KeyPart) (t : TView) (f : KeyPart → Bytes) :
    (keyOf parts t == parts.map f) = parts.all fun kp => KeyPart.of t kp == f kp := by
  induction parts with
  | nil => rfl
  | cons kp parts ih => rw [keyOf, List.map_cons, List.map_cons, List.cons_beq_cons, List.all_cons, ← ih]; rfl

/-- For any list of fixed components, not method by method; both sides in the order `List.filter_filter` leaves them. -/
theorem sel_pointwise (parts : List KeyPart) (a : LArgs) (lo : LookupOpts) (t : TView)
    (ha : .p ∈ parts → a.p.isSome = true) :
    (checkBounds (if parts.contains .p then a.p else none) lo t && (keyOf parts t == parts.map a.part))
      = (inWindow lo t && parts.all (partOK a t)) := by
  have hk {kp} (hkp : kp ∈ parts) := partOK_iff (a := a) (fun e => ha (e ▸ hkp)) t
  rw [checkBounds_eq, keyOf_beq, Bool.eq_iff_iff]
  simp only [Bool.and_eq_true, List.all_eq_true, beq_iff_eq, List.contains_iff_mem]
  constructor
  · rintro ⟨⟨hQ, hW⟩, hK⟩
    exact ⟨hW, fun kp hkp => (hk hkp).mpr ⟨hK kp hkp, fun e => by rwa [if_pos (e ▸ hkp)] at hQ⟩⟩
  · rintro ⟨hW, hM⟩
    refine ⟨⟨?_, hW⟩, fun kp hkp => ((hk hkp).mp (hM kp hkp)).1⟩
    split
    · next hp => exact ((hk hp).mp (hM _ hp)).2 rfl
    · rfl

/-- Arguments are well formed for a method when a predicate is supplied wherever one is fixed. -/
def argsOK (m : Method) (a : LArgs) : Bool := !fixesPred m || a.p.isSome

theorem bucket_eq {F : Facts} (hF : Facts.WF F = true) {g : Graph} (hg : Inv F g) (m : Method) (a : LArgs) :
    g.bucket F m a = g.master.filter (fun t => keyOf (fixedParts m) t == (fixedParts m).map a.part) := by
  unfold Graph.bucket
  cases hr : F.read m with
  | none => rw [read_none hF hr]; exact (List.filter_eq_self.mpr fun _ _ => rfl).symm
  | some tc => simp only [hg m tc hr, (read_facts hF hr).1]

theorem filterQueryOk_of_all {parts : List KeyPart} {a : LArgs} {t : TView}
    (h : parts.all (partOK a t) = true) :
    filterQueryOk (if parts.contains .p then a.p else none) t = true := by
  split
  · next hp =>
    have := List.all_eq_true.mp h _ (List.contains_iff_mem.mp hp)
    unfold partOK at this
    cases hq : a.p with
    | none => simp [hq] at this
    | some q =>
      simp only [hq, predMatches, Bool.and_eq_true, beq_iff_eq] at this
      simp [filterQueryOk, PQ.matchesKey, this.1, this.2]
  · rfl

theorem executeFilter_eq (q : Option PQ) (fo : FilterOpts) (c : List TView)
    (hq : ∀ t ∈ c, filterQueryOk q t = true) :
    executeFilter q fo c =
      if fo.op == .unknown then .error .badOp
      else if fo.field != .predicate && fo.field != .object then .error .badField
      else .ok (filt fo c) := by
  unfold executeFilter filt kindOfField
  cases fo.op <;> simp only [List.filter_eq_self.mpr hq] <;>
    (by_cases hf : (fo.field != .predicate && fo.field != .object) = true <;> simp [hf])
  all_goals
    refine List.filter_congr fun t _ => ?_
    rcases filterPred fo.field t with _ | ⟨_, _ | _⟩ <;> rfl

/-- C02 / C09: on every graph satisfying the index invariant, each look-up computes exactly what a scan of the stored
    set would compute, for all options (paging under the stated side condition). -/
theorem lookup_eq_scan {F : Facts} (hF : Facts.WF F = true) {g : Graph} (hg : Inv F g)
    (m : Method) (a : LArgs) (lo : LookupOpts) (ha : argsOK m a = true)
    (hp : 0 < lo.maxElements ∨ lo.maxElements * lo.offset ≤ 0) :
    g.lookup F m a lo = scanLookup g.master m a lo := by
  have ha' : .p ∈ fixedParts m → a.p.isSome = true := fun h => by
    simpa [argsOK, fixesPred, h] using ha
  have hsel : (g.bucket F m a).filter (checkBounds (if fixesPred m then a.p else none) lo)
      = (g.master.filter (matchesArgs m a)).filter (inWindow lo) := by
    rw [bucket_eq hF hg, List.filter_filter, List.filter_filter]
    exact List.filter_congr fun t _ => matchesArgs_eq m a t ▸ sel_pointwise _ a lo t ha'
  have hqok : ∀ t ∈ (g.master.filter (matchesArgs m a)).filter (inWindow lo),
      filterQueryOk (if fixesPred m then a.p else none) t = true :=
    fun t ht => filterQueryOk_of_all (List.mem_filter.mp (List.mem_filter.mp ht).1).2
  unfold Graph.lookup pipeline scanLookup
  simp only [(wf_method hF m).2.1, (wf_method hF m).2.2, hsel, checker_is_page lo _ hp]
  generalize (g.master.filter (matchesArgs m a)).filter (inWindow lo) = c at hqok ⊢
  cases lo.latestAnchor <;> rcases lo.filter with _ | fo <;>
    simp only [bind, Except.bind, pure, Except.pure, Option.isSome_none, Option.isSome_some, Bool.false_eq_true,
      if_false, if_true, Bool.and_false, Bool.and_true, executeFilter_eq _ _ c hqok]
  -- left: an explicit filter (the error tests sit under the bind on one side only), and LatestAnchor alone
  · cases fo.op == .unknown <;> cases fo.field != .predicate && fo.field != .object <;> rfl
  · rfl

theorem lookup_unpaged {F : Facts} (hF : Facts.WF F = true) {g : Graph} (hg : Inv F g) (m : Method) (a : LArgs)
    {lo : LookupOpts} (ha : argsOK m a = true) (hn : lo.maxElements = 0) (hl : lo.latestAnchor = false) (hf : lo.filter = none) :
    g.lookup F m a lo = .ok (sortByStr ((g.master.filter (matchesArgs m a)).filter (inWindow lo))) := by
  rw [lookup_eq_scan hF hg m a lo ha (.inr (by rw [hn, Int.zero_mul]; exact Int.le_refl 0))]
  simp [scanLookup, hl, hf, page, hn]

end BW.Proofs.Lookup
