/-
Join steps of the reference semantics: `leftJoin`, one row of a left outer join, of which every join step of the
reference is a `flatMap` (`joinBy`; for `joinClauseO` the row's step is `specJoinO`, with the matches of `rowMatch`) —
so permuting, enlarging or re-partitioning the scan acts on `solutions` and `solutionsO` alike (C03, C14).
-/
import BW.Proofs.Row

namespace BW.Proofs.Planner
open BW.Model BW.Spec

def nullRow (bs : List Bytes) (r : Row) : Row := (bs.filter (fun k => !r.has k)).map fun k => (k, Cell.null)

/-- One row of a left outer join with the matches `ms`; `bs`: the names to show NULL when `opt` and none agrees. -/
def leftJoin (r : Row) (opt : Bool) (bs : List Bytes) (ms : List Row) : List Row :=
  let ms := ms.filter (compatible r)
  if opt then
    if ms.isEmpty then [r.merge (nullRow bs r)] else ms.map r.merge
  else ms.map r.merge

/-- What a row makes of the clause before it is joined with the matches: `joinClauseO` is `joinBy` of this. -/
def rowMatch (glo ghi : Option Int) (c : Clause) (r : Row) : Triple → Option Row :=
  matchClause (withRowObjBounds c r) (clauseWindow glo ghi c r)

/-- One row of `joinClauseO`, spelled as there (so `joinClauseO_flat` is `rfl`); as a `leftJoin`: `specJoinO_by`. -/
def specJoinO (scan : List Triple) (glo ghi : Option Int) (c : Clause) (r : Row) : List Row :=
  let ms := (scan.filterMap (matchClause (withRowObjBounds c r) (clauseWindow glo ghi c r))).filter (compatible r)
  if c.optional then
    if ms.isEmpty then [r.merge ((c.bindings.filter (fun k => !r.has k)).map fun k => (k, Cell.null))]
    else ms.map r.merge
  else ms.map r.merge

theorem joinClauseO_flat (scan : List Triple) (glo ghi : Option Int) (rows : List Row) (c : Clause) :
    joinClauseO scan glo ghi rows c = rows.flatMap (specJoinO scan glo ghi c) := rfl

theorem specJoinO_by (scan : List Triple) (glo ghi : Option Int) (c : Clause) (r : Row) :
    specJoinO scan glo ghi c r = leftJoin r c.optional c.bindings (scan.filterMap (rowMatch glo ghi c r)) := rfl

end BW.Proofs.Planner

namespace BW.Proofs.Query
open BW.Model BW.Spec BW.Proofs.Lists BW.Proofs.Planner

theorem leftJoin_perm {r : Row} {opt : Bool} {bs : List Bytes} {ms ms' : List Row} (h : ms.Perm ms') :
    (leftJoin r opt bs ms).Perm (leftJoin r opt bs ms') := by
  have hp := h.filter (compatible r)
  unfold leftJoin
  simp only [hp.isEmpty_eq]
  split
  · split
    · exact .refl _
    · exact hp.map _
  · exact hp.map _

/-- A join step whose matches are drawn from the scan by a function of the row: `joinClause`, `joinClauseO`. -/
def joinBy (f : Row → Triple → Option Row) (opt : Bool) (bs : List Bytes) (scan : List Triple) (rows : List Row) : List Row :=
  rows.flatMap fun r => leftJoin r opt bs (scan.filterMap (f r))

theorem joinClause_by (glo ghi : Option Int) (c : Clause) (scan : List Triple) (rows : List Row) :
    joinClause scan glo ghi rows c =
      joinBy (fun r => matchClause c (clauseWindow glo ghi c r)) c.optional c.bindings scan rows := rfl

theorem joinClauseO_by (glo ghi : Option Int) (c : Clause) (scan : List Triple) (rows : List Row) :
    joinClauseO scan glo ghi rows c = joinBy (rowMatch glo ghi c) c.optional c.bindings scan rows := rfl

section joinBy
variable {f : Row → Triple → Option Row} {opt : Bool} {bs : List Bytes} {scan scan' : List Triple} {rows rows' : List Row}

theorem joinBy_perm (hs : scan.Perm scan') (hr : rows.Perm rows') :
    (joinBy f opt bs scan rows).Perm (joinBy f opt bs scan' rows') :=
  (hr.flatMap_right _).trans (flatMap_perm_left _ _ _ fun _ _ => leftJoin_perm (hs.filterMap _))

/-- By evaluation, which is also how `joinBy_sublist` and `joinBy_mono` read a step without OPTIONAL. -/
theorem joinBy_mandatory :
    joinBy f false bs scan rows = rows.flatMap fun r => ((scan.filterMap (f r)).filter (compatible r)).map r.merge := rfl

theorem joinBy_sublist (hs : scan.Sublist scan') (hr : rows.Sublist rows') :
    (joinBy f false bs scan rows).Sublist (joinBy f false bs scan' rows') :=
  flatMap_sublist _ _ _ _ hr fun _ => ((hs.filterMap _).filter _).map _

theorem joinBy_mono (hs : ∀ t ∈ scan, t ∈ scan') (hr : ∀ r ∈ rows, r ∈ rows') :
    ∀ x ∈ joinBy f false bs scan rows, x ∈ joinBy f false bs scan' rows' := by
  intro x hx
  obtain ⟨r, hrm, hxr⟩ := List.mem_flatMap.mp hx
  exact List.mem_flatMap.mpr ⟨r, hr r hrm, List.map_subset _ (List.filter_subset _ (List.filterMap_subset _ hs)) hxr⟩

end joinBy

def StepsBy (J : List Triple → List Row → Clause → List Row) : Prop :=
  ∀ c, ∃ f, ∀ scan rows, J scan rows c = joinBy f c.optional c.bindings scan rows

section foldl
variable {J : List Triple → List Row → Clause → List Row} (hJ : StepsBy J) {scan scan' : List Triple} (cs : List Clause)
include hJ

/-- C14 `partition_invariant`: any partition of the data over the FROM graphs permutes the scan. -/
theorem foldl_perm_scan (hs : scan.Perm scan') (init : List Row) : (cs.foldl (J scan) init).Perm (cs.foldl (J scan') init) :=
  List.foldl_rel (r := List.Perm) (.refl _) fun c _ a b hab => by
    obtain ⟨f, hf⟩ := hJ c
    rw [hf, hf]
    exact joinBy_perm hs hab

/-- C03 / C14 `monotone`. -/
theorem foldl_mono (hc : ∀ c ∈ cs, c.optional = false) (hs : ∀ t ∈ scan, t ∈ scan') (init : List Row) :
    ∀ r ∈ cs.foldl (J scan) init, r ∈ cs.foldl (J scan') init :=
  List.foldl_rel (r := fun a b => ∀ r ∈ a, r ∈ b) (fun _ h => h) fun c hm a b hab => by
    obtain ⟨f, hf⟩ := hJ c
    rw [hf, hf, hc c hm]
    exact joinBy_mono hs hab

theorem foldl_sublist (hc : ∀ c ∈ cs, c.optional = false) (hs : scan.Sublist scan') (init : List Row) :
    (cs.foldl (J scan) init).Sublist (cs.foldl (J scan') init) :=
  List.foldl_rel (r := List.Sublist) (.refl _) fun c hm a b hab => by
    obtain ⟨f, hf⟩ := hJ c
    rw [hf, hf, hc c hm]
    exact joinBy_sublist hs hab

end foldl

theorem stepsBy_joinClause (glo ghi : Option Int) : StepsBy fun scan rows c => joinClause scan glo ghi rows c :=
  fun c => ⟨_, joinClause_by glo ghi c⟩

theorem stepsBy_joinClauseO (glo ghi : Option Int) : StepsBy fun scan rows c => joinClauseO scan glo ghi rows c :=
  fun c => ⟨_, joinClauseO_by glo ghi c⟩

/-- `a` is contained in `b` as a multiset. -/
def SubMulti {α : Type} (a b : List α) : Prop := ∃ l : List α, l.Perm a ∧ l.Sublist b

end BW.Proofs.Query
