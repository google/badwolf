/-
At a token boundary, whatever the previous token, the printed form of a binding, node, blank node, predicate, bound or
literal (without embedded double quotes) is read as one token carrying exactly that text, and what follows is left
(`dispatch_*`: what follows must not prolong a name or a type name); alone it is the one token of the input
(`lex_single`: C16).  Side conditions: what `node.NewID` accepts, a node type without backslash (known finding D38),
IDs as `%q` prints them, a literal value not ending with a backslash (known finding D36).
-/
import BW.Model.Lexer
import BW.Proofs.Lists
open BW.Model

namespace BW.Proofs.LexPrinted
set_option linter.unusedSectionVars false
variable {K : Type} [DecidableEq K]

theorem lex_single (T : LexTables K) (r : Rune) (t : List Rune) (k : K)
    (hd : dispatch T T.tError r (r :: t) = some (.tok k (r :: t) [])) :
    lex T (r :: t) = [(k, r :: t), (T.tEOF, [])] := by
  unfold lex
  simp only [List.length_cons, lexLoop, hd, List.nil_append, List.dropWhile_nil]

theorem dispatch_binding (T : LexTables K) (last : K) (q : Rune) (name post : List Rune) (hq : q.cp = 63) (hqd : q.digit = false)
    (hn : ∀ x ∈ name, isNameRune x = true) (hp : ∀ x ∈ post.head?, isNameRune x = false) :
    dispatch T last q (q :: (name ++ post)) = some (.tok T.tBinding (q :: name) post) := by
  simp [dispatch, hqd, hq, lexBinding, Lists.takeWhile_stop hn hp]

theorem dispatch_blank (T : LexTables K) (last : K) (u c l : Rune) (name post : List Rune) (hu : u.cp = 95) (hud : u.digit = false)
    (hc : c.cp = 58) (hl : l.letter = true) (hn : ∀ x ∈ name, isNameRune x = true) (hp : ∀ x ∈ post.head?, isNameRune x = false) :
    dispatch T last u (u :: c :: l :: (name ++ post)) = some (.tok T.tBlank (u :: c :: l :: name) post) := by
  simp [dispatch, hud, hu, lexBlankNode, hc, hl, Lists.takeWhile_stop hn hp]

/-! ### Nodes -/

/-- Runes other than `<` and `>` are passed over. A backslash among them could only matter by escaping a `<`:
    there is none inside, and the rune that follows is not `<` unless there is no backslash either. -/
theorem nodeGo_skip (T : LexTables K) (body : List Rune) (hb : ∀ x ∈ body, x.cp ≠ 60 ∧ x.cp ≠ 62) (n : Rune)
    (hn : n.cp ≠ 60 ∨ ∀ x ∈ body, x.cp ≠ 92) (acc rest : List Rune) (lt : Bool) :
    lexNodeGo T acc (body ++ n :: rest) lt = lexNodeGo T (body.reverse ++ acc) (n :: rest) lt := by
  induction body generalizing acc with
  | nil => rfl
  | cons x body ih =>
    simp only [List.mem_cons, forall_eq_or_imp] at hb hn
    have ih := ih hb.2 (hn.imp_right (·.2)) (x :: acc)
    rw [List.cons_append, lexNodeGo.eq_def]
    by_cases h92 : x.cp = 92
    · have hn' : n.cp ≠ 60 := hn.resolve_right (fun h => h.1 h92)
      cases body with
      | nil => simp [h92, hn']
      | cons y _ => simpa [h92, (hb.2 y (by simp)).1] using ih
    · simpa [h92, hb.1.1, hb.1.2] using ih

theorem nodeGo_lt (T : LexTables K) {x : Rune} (hx : x.cp = 60) (acc rest : List Rune) (lt : Bool) :
    lexNodeGo T acc (x :: rest) lt = lexNodeGo T (x :: acc) rest true := by
  rw [lexNodeGo.eq_def]; simp [hx]

theorem nodeGo_gt (T : LexTables K) {x : Rune} (hx : x.cp = 62) (acc rest : List Rune) :
    lexNodeGo T acc (x :: rest) true = .tok T.tNode (x :: acc).reverse rest := by
  rw [lexNodeGo.eq_def]; simp [hx]

/-- `hid` is what `node.NewID` accepts (backslashes too, also last). `hty` asks more than `node.NewType`, which accepts
    a backslash: one before the `<` is read as an escape — known finding D38. -/
theorem dispatch_node (T : LexTables K) (last : K) (sl lt gt : Rune) (ty id post : List Rune)
    (hsl : sl.cp = 47) (hsd : sl.digit = false) (hlt : lt.cp = 60) (hgt : gt.cp = 62)
    (hty : ∀ x ∈ ty, x.cp ≠ 60 ∧ x.cp ≠ 62 ∧ x.cp ≠ 92) (hid : ∀ x ∈ id, x.cp ≠ 60 ∧ x.cp ≠ 62) :
    dispatch T last sl (sl :: (ty ++ lt :: (id ++ gt :: post))) =
      some (.tok T.tNode (sl :: (ty ++ lt :: (id ++ [gt]))) post) := by
  have hty' : ∀ x ∈ sl :: ty, x.cp ≠ 60 ∧ x.cp ≠ 62 ∧ x.cp ≠ 92 :=
    List.forall_mem_cons.2 ⟨by simp [hsl], hty⟩
  simp only [dispatch, hsd, hsl, Bool.false_and, lexNode]
  rw [← List.cons_append,
    nodeGo_skip T _ (fun x hx => ⟨(hty' x hx).1, (hty' x hx).2.1⟩) lt (.inr fun x hx => (hty' x hx).2.2),
    nodeGo_lt T hlt, nodeGo_skip T id hid gt (.inl (by simp [hgt])), nodeGo_gt T hgt]
  simp

/-! ### Bytes: where the delimiters `"@[` and `"^^type:` are found -/

theorem indexOf_skip (p0 : UInt8) (ps : Bytes) (pre : Bytes) (h : p0 ∉ pre) (rest : Bytes) (i : Nat) :
    indexOf (p0 :: ps) (pre ++ rest) i = indexOf (p0 :: ps) rest (i + pre.length) := by
  induction pre generalizing i with
  | nil => rfl
  | cons b pre ih =>
    simp only [List.mem_cons, not_or] at h
    simp [indexOf, isPrefixB, h.1, ih h.2, Nat.add_assoc, Nat.add_comm 1]

theorem indexOf_ge (pat : Bytes) (bs : Bytes) (i l : Nat) (h : indexOf pat bs i = some l) : i ≤ l := by
  fun_induction indexOf pat bs i <;> simp_all <;> omega

theorem indexOf_none_of_absent (p0 : UInt8) (ps : Bytes) (bs : Bytes) (h : p0 ∉ bs) (i : Nat) :
    indexOf (p0 :: ps) bs i = none := by
  rw [← List.append_nil bs, indexOf_skip p0 ps bs h]
  rfl

theorem runesBytes_append (a b : List Rune) : runesBytes (a ++ b) = runesBytes a ++ runesBytes b := by
  simp [runesBytes]

/-- The first occurrence of the byte both patterns start with (`"`, after the opening one) decides: the pattern that
    starts there is found there, the other one later or not at all. -/
theorem indexOf_first {p0 : UInt8} (ps pre : Bytes) (h : p0 ∉ pre) (tail : Bytes) :
    (isPrefixB (p0 :: ps) (p0 :: tail) = true → indexOf (p0 :: ps) (pre ++ p0 :: tail) 0 = some pre.length) ∧
    (isPrefixB (p0 :: ps) (p0 :: tail) = false →
      ∀ l, indexOf (p0 :: ps) (pre ++ p0 :: tail) 0 = some l → pre.length < l) := by
  rw [indexOf_skip _ _ _ h, indexOf, Nat.zero_add]
  refine ⟨fun hp => by simp [hp], fun hp l hl => ?_⟩
  simp only [hp, Bool.false_eq_true, if_false] at hl
  exact indexOf_ge _ _ _ _ hl

/-- What `indexOf_first` decides for `lexPredicateOrLiteral`: the sub-lexer whose delimiter stands at the first `"` after the opening one. -/
theorem predicateOrLiteral_picks (T : LexTables K) (rest : List Rune) (pre tail : Bytes) (hno : (34 : UInt8) ∉ pre)
    (hb : (runesBytes rest).drop 1 = pre ++ 34 :: tail) :
    (isPrefixB anchorPat (34 :: tail) = true → isPrefixB litTypePat (34 :: tail) = false →
      lexPredicateOrLiteral T rest = lexPredicate T rest) ∧
    (isPrefixB litTypePat (34 :: tail) = true → isPrefixB anchorPat (34 :: tail) = false →
      lexPredicateOrLiteral T rest = lexLiteral T rest) := by
  have ha := indexOf_first [64, 91] pre hno tail
  have hl := indexOf_first [94, 94, 116, 121, 112, 101, 58] pre hno tail
  unfold lexPredicateOrLiteral
  simp only [hb, anchorPat, litTypePat] at ha hl ⊢
  refine ⟨fun h1 h2 => ?_, fun h1 h2 => ?_⟩
  · rw [ha.1 h1]
    cases hli : indexOf [34, 94, 94, 116, 121, 112, 101, 58] (pre ++ 34 :: tail) 0 with
    | none => rfl
    | some l => simp [hl.2 h2 l hli]
  · rw [hl.1 h1]
    cases hpi : indexOf [34, 64, 91] (pre ++ 34 :: tail) 0 with
    | none => rfl
    | some p => simp [Nat.lt_asymm (ha.2 h2 p hpi)]

/-- As far as ASCII goes, a rune's bytes are its code point. -/
def RuneOK (r : Rune) : Prop :=
  (r.cp < 128 → r.bytes = [r.cp.toUInt8]) ∧ (128 ≤ r.cp → ∀ b ∈ r.bytes, 128 ≤ b.toNat)

theorem no_quote_byte (rs : List Rune) (h : ∀ r ∈ rs, RuneOK r ∧ r.cp ≠ 34) : (34 : UInt8) ∉ runesBytes rs := by
  simp only [runesBytes, List.mem_flatMap, not_exists, not_and]
  intro r hr hm
  obtain ⟨⟨h1, h2⟩, h3⟩ := h r hr
  by_cases hc : r.cp < 128
  · rw [h1 hc, List.mem_singleton] at hm
    have : 34 = r.cp % 256 := by simpa using congrArg UInt8.toNat hm
    omega
  · exact absurd (h2 (by omega) _ hm) (by decide)

/-! ### Predicates and bounds -/

/-- A printed (`%q`) ID without embedded double quotes: plain runes, `\\` pairs, and a backslash followed by a
    plain rune (`\n`, `\x7f`, `\u00e9` …). -/
inductive PBody : List Rune → Prop
  | nil : PBody []
  | plain (r : Rune) (t : List Rune) (h : r.cp ≠ 34 ∧ r.cp ≠ 92) : PBody t → PBody (r :: t)
  | pair (b n : Rune) (t : List Rune) (hb : b.cp = 92) (hn : n.cp = 92) : PBody t → PBody (b :: n :: t)
  | esc (b r : Rune) (t : List Rune) (hb : b.cp = 92) (h : r.cp ≠ 34 ∧ r.cp ≠ 92) : PBody t → PBody (b :: r :: t)

theorem predGo_plain (T : LexTables K) {r : Rune} (h : r.cp ≠ 34 ∧ r.cp ≠ 92) (acc t : List Rune) :
    lexPredicateGo T acc (r :: t) = lexPredicateGo T (r :: acc) t := by
  rw [lexPredicateGo.eq_def]; simp [h.1, h.2]

theorem predGo_body (T : LexTables K) (body : List Rune) (hb : PBody body) (acc rest : List Rune) :
    lexPredicateGo T acc (body ++ rest) = lexPredicateGo T (body.reverse ++ acc) rest := by
  induction hb generalizing acc with
  | nil => rfl
  | plain r t h _ ih => rw [List.cons_append, predGo_plain T h, ih]; simp
  | pair b n t hb hn _ ih => rw [List.cons_append, List.cons_append, lexPredicateGo.eq_def]; simp [hb, hn, ih]
  | esc b r t hb h _ ih =>
    -- the backslash is passed over alone, then `r` as a plain rune
    rw [List.cons_append, List.cons_append, lexPredicateGo.eq_def]
    simp [hb, h.1, h.2, predGo_plain T h, ih]

theorem pbody_no_quote {body : List Rune} (h : PBody body) : ∀ r ∈ body, r.cp ≠ 34 := by
  induction h with
  | nil => nofun
  | plain r t h _ ih => exact List.forall_mem_cons.2 ⟨h.1, ih⟩
  | pair b n t hb hn _ ih => exact List.forall_mem_cons.2 ⟨by omega, List.forall_mem_cons.2 ⟨by omega, ih⟩⟩
  | esc b r t hb h _ ih => exact List.forall_mem_cons.2 ⟨by omega, List.forall_mem_cons.2 ⟨h.1, ih⟩⟩

def commaCount (rs : List Rune) : Nat := (rs.filter (·.cp == 44)).length

theorem predTail_scan (T : LexTables K) (anchor : List Rune) (ha : ∀ x ∈ anchor, x.cp ≠ 93) (rb : Rune) (hrb : rb.cp = 93)
    (acc rest : List Rune) (c : Nat) : predTail T acc (anchor ++ rb :: rest) c =
      if c + commaCount anchor > 1 then .err (rb :: (anchor.reverse ++ acc)).reverse
      else .tok (if c + commaCount anchor == 0 then T.tPredicate else T.tPredBound) (rb :: (anchor.reverse ++ acc)).reverse rest := by
  induction anchor generalizing acc c with
  | nil => simp [predTail, hrb, commaCount]
  | cons x anchor ih =>
    simp only [List.mem_cons, forall_eq_or_imp] at ha
    have hc : (if x.cp = 44 then c + 1 else c) + commaCount anchor = c + commaCount (x :: anchor) := by
      by_cases h44 : x.cp = 44 <;> simp [commaCount, h44] <;> omega
    rw [List.cons_append, predTail]
    simp only [ha.1, beq_iff_eq, if_false, ih ha.2, hc, List.reverse_cons, List.append_assoc, List.singleton_append]

def Delim (r : Rune) (c : Nat) : Prop := r.cp = c ∧ r.bytes = [c.toUInt8] ∧ r.lower = c

theorem consumePat_all (pat : List Nat) (dl acc rest : List Rune) (h : dl.map (·.lower) = pat.map asciiLower) :
    consumePat pat acc (dl ++ rest) = (true, dl.reverse ++ acc, rest) := by
  induction pat generalizing dl acc with
  | nil => simp_all [consumePat]
  | cons c pat ih =>
    cases dl with
    | nil => simp at h
    | cons d dl =>
      simp only [List.map_cons, List.cons.injEq] at h
      simp [consumePat, h.1, ih dl (d :: acc) h.2]

theorem dispatch_predicate (T : LexTables K) (last : K) (q q2 at_ lb rb : Rune) (body anchor post : List Rune)
    (hq : Delim q 34) (hqd : q.digit = false) (hq2 : Delim q2 34) (hat : Delim at_ 64) (hlb : Delim lb 91) (hrb : rb.cp = 93)
    (hbody : PBody body) (hok : ∀ r ∈ body, RuneOK r)
    (ha : ∀ x ∈ anchor, x.cp ≠ 93) (hc : commaCount anchor ≤ 1) :
    dispatch T last q (q :: (body ++ q2 :: at_ :: lb :: (anchor ++ rb :: post))) =
      some (.tok (if commaCount anchor == 0 then T.tPredicate else T.tPredBound)
        (q :: (body ++ q2 :: at_ :: lb :: (anchor ++ [rb]))) post) := by
  have hsel := (predicateOrLiteral_picks T (q :: (body ++ q2 :: at_ :: lb :: (anchor ++ rb :: post))) (runesBytes body)
    (64 :: 91 :: runesBytes (anchor ++ rb :: post)) (no_quote_byte body fun r hr => ⟨hok r hr, pbody_no_quote hbody r hr⟩)
    (by simp [runesBytes, hq.2.1, hq2.2.1, hat.2.1, hlb.2.1])).1 rfl rfl
  have hcons := consumePat_all [34, 64, 91] [q2, at_, lb] (body.reverse ++ [q]) (anchor ++ rb :: post)
    (by simp [hq2.2.2, hat.2.2, hlb.2.2, asciiLower])
  simp only [dispatch, hqd, hq.1, Bool.false_and, hsel, lexPredicate]
  rw [predGo_body T body hbody, lexPredicateGo.eq_def]
  simp only [hq2.1]
  simp only [List.cons_append, List.nil_append] at hcons
  simp [hcons, predTail_scan T anchor ha rb hrb, Nat.not_lt.2 hc]

/-! ### Literals -/

/-- The value does not end with a backslash (a backslash before the closing quote would escape it: known
    finding D36). -/
def NoTrailingBackslash (v : List Rune) : Prop := ∀ x, v.getLast? = some x → x.cp ≠ 92

theorem litGo_body (T : LexTables K) (q2 : Rune) (v : List Rune) (hv : ∀ x ∈ v, x.cp ≠ 34)
    (hl : NoTrailingBackslash v) (acc rest : List Rune) :
    lexLiteralGo T acc (v ++ q2 :: rest) = lexLiteralGo T (v.reverse ++ acc) (q2 :: rest) := by
  induction v generalizing acc with
  | nil => rfl
  | cons x v ih =>
    simp only [List.mem_cons, forall_eq_or_imp] at hv
    rw [List.cons_append, lexLiteralGo.eq_def]
    cases v with
    | nil => simp [hv.1, hl x rfl]
    | cons y v' =>
      have ih := ih hv.2 (fun z hz => hl z (by simpa using hz)) (x :: acc)
      by_cases h92 : x.cp = 92
      · simpa [h92, hv.2 y (by simp)] using ih
      · simpa [h92, hv.1] using ih

theorem dispatch_literal (T : LexTables K) (last : K) (q q2 : Rune) (v dl ty post : List Rune)
    (hq : Delim q 34) (hqd : q.digit = false) (hq2 : Delim q2 34)
    (hv : ∀ x ∈ v, RuneOK x ∧ x.cp ≠ 34) (hl : NoTrailingBackslash v)
    (hdl : (q2 :: dl).map (·.lower) = [34, 94, 94, 116, 121, 112, 101, 58]) (hdb : runesBytes (q2 :: dl) = litTypePat)
    (hty : ∀ x ∈ ty, (x.letter || x.digit) = true) (hknown : T.litTypes.contains (lowerCps ty) = true)
    (hp : ∀ x ∈ post.head?, (x.letter || x.digit) = false) :
    dispatch T last q (q :: (v ++ q2 :: (dl ++ (ty ++ post)))) = some (.tok T.tLiteral (q :: (v ++ q2 :: (dl ++ ty))) post) := by
  have hsel := (predicateOrLiteral_picks T (q :: (v ++ q2 :: (dl ++ (ty ++ post)))) (runesBytes v)
    (94 :: 94 :: 116 :: 121 :: 112 :: 101 :: 58 :: runesBytes (ty ++ post)) (no_quote_byte v hv)
    (by simp only [runesBytes, List.flatMap_cons, List.flatMap_append] at hdb ⊢; simp [hq.2.1, ← List.append_assoc, hdb, litTypePat])).2 rfl rfl
  have hcons := consumePat_all [34, 94, 94, 116, 121, 112, 101, 58] (q2 :: dl) (v.reverse ++ [q]) (ty ++ post)
    (by rw [hdl]; decide)
  have htw := Lists.takeWhile_stop hty hp
  simp only [dispatch, hqd, hq.1, Bool.false_and, hsel, lexLiteral]
  rw [litGo_body T q2 v (fun x hx => (hv x hx).2) hl, lexLiteralGo.eq_def]
  simp only [hq2.1]
  simp only [List.cons_append] at hcons
  simp only [hcons, htw.1, htw.2, hknown, if_true]
  simp

end BW.Proofs.LexPrinted
