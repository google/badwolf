/-
The lexer model (for C16, and C08's `lex_total`): every sub-lexer consumes a non-empty prefix of the remaining
input and returns exactly the rest, under a regular token kind (`Good`); hence the main loop emits ordered
substrings ending in exactly one terminal token.
-/
import BW.Model.Lexer

set_option linter.unusedSectionVars false

namespace BW.Proofs.Lexer
open BW.Model

variable {K : Type} [DecidableEq K]

def tokKinds (T : LexTables K) : List K :=
  T.keywords.map (·.2) ++ T.singles.map (·.2) ++
    [T.tBinding, T.tNode, T.tBlank, T.tLiteral, T.tPredicate, T.tPredBound, T.tTime, T.tFilterFn]

def TablesWF (T : LexTables K) : Prop := ∀ k ∈ tokKinds T, k ≠ T.tEOF ∧ k ≠ T.tError

def Good (T : LexTables K) (rest : List Rune) : LStep K → Prop
  | .tok k text rest' => text ++ rest' = rest ∧ text ≠ [] ∧ k ∈ tokKinds T
  | .err text => text <+: rest

/-! The scanning loops keep the consumed text reversed in `acc`: they are `Good` on `acc.reverse ++ rest`.
    `caseN`: the `N`-th branch of the function in `BW/Model/Lexer.lean`, top to bottom. -/

theorem Good.shift {T : LexTables K} {x : Rune} {acc t : List Rune} {s : LStep K}
    (h : Good T ((x :: acc).reverse ++ t) s) : Good T (acc.reverse ++ x :: t) s := by
  simpa using h

theorem good_tok_before {T : LexTables K} {k : K} {acc : List Rune} (hacc : acc ≠ []) (rest : List Rune)
    (hk : k ∈ tokKinds T) : Good T (acc.reverse ++ rest) (.tok k acc.reverse rest) :=
  ⟨rfl, by simpa, hk⟩

theorem good_tok {T : LexTables K} {k : K} (acc : List Rune) (x : Rune) (t : List Rune) (hk : k ∈ tokKinds T) :
    Good T (acc.reverse ++ x :: t) (.tok k (x :: acc).reverse t) :=
  (good_tok_before (List.cons_ne_nil x acc) t hk).shift

theorem good_err {T : LexTables K} (acc rest : List Rune) : Good T (acc.reverse ++ rest) (.err acc.reverse) :=
  List.prefix_append _ _

theorem good_err1 {T : LexTables K} (acc : List Rune) (x : Rune) (t : List Rune) :
    Good T (acc.reverse ++ x :: t) (.err (x :: acc).reverse) :=
  (good_err (x :: acc) t).shift

theorem mem_named (T : LexTables K) (k : K)
    (h : k ∈ [T.tBinding, T.tNode, T.tBlank, T.tLiteral, T.tPredicate, T.tPredBound, T.tTime, T.tFilterFn]) :
    k ∈ tokKinds T :=
  List.mem_append_right _ h

theorem lexNodeGo_good (T : LexTables K) (acc rest : List Rune) (lt : Bool) :
    Good T (acc.reverse ++ rest) (lexNodeGo T acc rest lt) := by
  fun_induction lexNodeGo T acc rest lt
  case case1 => exact good_err _ _  -- end of input
  case case2 ih => exact ih.shift.shift  -- `\<`
  case case6 => exact good_tok _ _ _ (mem_named T _ (by simp))  -- `>` after a `<`
  case case7 => exact good_err1 _ _ _  -- `>`, no `<` before
  -- 3, 4: lone backslash; 5: `<`; 8: other
  all_goals exact Good.shift ‹_›

theorem lexNode_good (T : LexTables K) (rest : List Rune) : Good T rest (lexNode T rest) :=
  lexNodeGo_good T [] rest false

theorem predTail_good (T : LexTables K) (acc rest : List Rune) (c : Nat) :
    Good T (acc.reverse ++ rest) (predTail T acc rest c) := by
  fun_induction predTail T acc rest c
  case case1 => exact good_err _ _  -- end of input
  case case2 => exact good_err1 _ _ _  -- `]`, two commas
  case case3 => exact good_tok _ _ _ (mem_named T _ (by split <;> simp))  -- `]`
  case case4 ih => exact ih.shift

theorem consumePat_spec {pat : List Nat} {acc rest acc' rest' : List Rune} {ok : Bool}
    (h : consumePat pat acc rest = (ok, acc', rest')) :
    acc'.reverse ++ rest' = acc.reverse ++ rest ∧ (ok = true → acc'.length = acc.length + pat.length) := by
  fun_induction consumePat pat acc rest
  case case3 ih => simpa [Nat.add_right_comm _ 1, Nat.add_assoc] using ih h  -- a match
  -- 1: pattern used up; 2: end of input; 4: mismatch
  all_goals simp_all

theorem Good.of_consumePat {T : LexTables K} {pat : List Nat} {acc rest acc' rest' : List Rune} {ok : Bool}
    {s : LStep K} (h : consumePat pat acc rest = (ok, acc', rest')) (hs : Good T (acc'.reverse ++ rest') s) :
    Good T (acc.reverse ++ rest) s :=
  (consumePat_spec h).1 ▸ hs

theorem lexPredicateGo_good (T : LexTables K) (acc rest : List Rune) :
    Good T (acc.reverse ++ rest) (lexPredicateGo T acc rest) := by
  fun_induction lexPredicateGo T acc rest
  case case1 => exact good_err _ _  -- end of input
  case case2 ih => exact ih.shift.shift  -- `\"`, `\\`
  case case5 heq => exact .of_consumePat heq (predTail_good T _ _ 0)  -- `"@[`
  case case6 heq => exact .of_consumePat heq (good_err _ _)  -- `"`, not `"@[`
  -- 3, 4: lone backslash; 7: other
  all_goals exact Good.shift ‹_›

theorem lexLiteralGo_good (T : LexTables K) (acc rest : List Rune) :
    Good T (acc.reverse ++ rest) (lexLiteralGo T acc rest) := by
  fun_induction lexLiteralGo T acc rest
  case case1 => exact good_err _ _  -- end of input
  case case2 ih => exact ih.shift.shift  -- `\"`
  -- 5–7: after `"^^type:`. 5: a known type; 6: unknown, end of input; 7: unknown, a rune follows
  case case5 acc r t _ _ acc' rest' heq ty after _ =>
    refine .of_consumePat heq ⟨by simp [ty, after], fun e => ?_, mem_named T _ (by simp)⟩
    have := congrArg List.length e
    simp [(consumePat_spec heq).2] at this
  case case6 heq _ _ _ _ => exact .of_consumePat heq ((List.prefix_append_right_inj _).2 (List.takeWhile_prefix _))
  case case7 heq ty after _ q t hafter => exact .of_consumePat heq ⟨t, by simp [← hafter, ty, after]⟩
  case case8 heq => exact .of_consumePat heq (good_err _ _)  -- `"`, not `"^^type:`
  -- 3, 4: lone backslash; 9: other
  all_goals exact Good.shift ‹_›

theorem lexBinding_good (T : LexTables K) (rest : List Rune) : Good T rest (lexBinding T rest) := by
  fun_cases lexBinding T rest
  · exact List.prefix_rfl
  · exact ⟨by simp, by simp, mem_named T _ (by simp)⟩

theorem lexFilterFunction_good (T : LexTables K) (rest : List Rune) : Good T rest (lexFilterFunction T rest) := by
  fun_cases lexFilterFunction T rest
  case case1 => exact List.prefix_rfl  -- no input
  case case2 q t name _ => exact (List.prefix_cons_inj q).2 (List.takeWhile_prefix _)  -- end of input after the name
  -- 3: `(` follows; 4: another rune
  case case3 q t name n after h _ => exact ⟨by simp [name, ← h], by simp [name], mem_named T _ (by simp)⟩
  case case4 q t name n after h _ => exact ⟨after, by simp [name, ← h]⟩

theorem lexBlankNode_good (T : LexTables K) (rest : List Rune) : Good T rest (lexBlankNode T rest) := by
  fun_cases lexBlankNode T rest
  case case6 => exact ⟨by simp, by simp, mem_named T _ (by simp)⟩  -- `_:` and a letter
  -- 1–5: errors
  all_goals exact ⟨_, rfl⟩

theorem globalTimeGo_good (T : LexTables K) (acc rest : List Rune) (c : Nat) (hacc : acc ≠ []) :
    Good T (acc.reverse ++ rest) (globalTimeGo T acc rest c) := by
  fun_induction globalTimeGo T acc rest c
  case case2 => exact good_err1 _ _ _  -- second comma
  case case3 ih => simpa using ih (by simp)  -- first comma, spaces after it
  case case5 => exact good_tok _ _ _ (mem_named T _ (by split <;> simp))  -- a space
  case case6 ih => exact (ih (by simp)).shift
  -- 1: end of input; 4: `;`
  all_goals exact good_tok_before hacc _ (mem_named T _ (by split <;> simp))

theorem localTimeGo_good (T : LexTables K) (acc rest : List Rune) (hacc : acc ≠ []) :
    Good T (acc.reverse ++ rest) (localTimeGo T acc rest) := by
  fun_induction localTimeGo T acc rest
  case case3 => exact good_tok _ _ _ (mem_named T _ (by simp))  -- a space
  case case4 ih => exact (ih (by simp)).shift
  -- 1: end of input; 2: `;`, `)`
  all_goals exact good_tok_before hacc _ (mem_named T _ (by simp))

theorem lexPredicate_good (T : LexTables K) : ∀ rest, Good T rest (lexPredicate T rest)
  | [] => List.prefix_rfl
  | q :: t => lexPredicateGo_good T [q] t

theorem lexLiteral_good (T : LexTables K) : ∀ rest, Good T rest (lexLiteral T rest)
  | [] => List.prefix_rfl
  | q :: t => lexLiteralGo_good T [q] t

theorem lexGlobalTime_good (T : LexTables K) : ∀ rest, Good T rest (lexGlobalTime T rest)
  | [] => List.prefix_rfl
  | d :: t => globalTimeGo_good T [d] t 0 (by simp)

theorem lexLocalTime_good (T : LexTables K) : ∀ rest, Good T rest (lexLocalTime T rest)
  | [] => List.prefix_rfl
  | d :: t => localTimeGo_good T [d] t (by simp)

theorem lexPredicateOrLiteral_good (T : LexTables K) (rest : List Rune) :
    Good T rest (lexPredicateOrLiteral T rest) := by
  fun_cases lexPredicateOrLiteral T rest
  case case1 => exact List.nil_prefix  -- neither delimiter
  case case2 => exact lexPredicate_good T rest  -- only `"@[`
  case case3 => exact lexPredicate_good T rest  -- `"@[` first
  all_goals exact lexLiteral_good T rest  -- `"^^type:` first, or alone

theorem findKeyword_mem {word : List Rune} {kws : List (List Nat × K)} {k : K}
    (h : findKeyword word kws = some k) : k ∈ kws.map (·.2) := by
  fun_induction findKeyword word kws <;> simp_all

theorem lookupSingle_mem {cp : Nat} {l : List (Nat × K)} {k : K} (h : lookupSingle cp l = some k) :
    k ∈ l.map (·.2) := by
  fun_induction lookupSingle cp l <;> simp_all

theorem lexKeyword_good (T : LexTables K) (r : Rune) (t : List Rune) (h : r.letter = true) :
    Good T (r :: t) (lexKeyword T (r :: t)) := by
  fun_cases lexKeyword T (r :: t)
  case case1 word k hk =>
    exact ⟨List.takeWhile_append_dropWhile, by simp [word, h],
      List.mem_append_left _ (List.mem_append_left _ (findKeyword_mem hk))⟩
  case case2 => exact List.takeWhile_prefix _  -- no keyword

theorem dispatch_good (T : LexTables K) (last : K) (r : Rune) (t : List Rune) :
    ∀ s, dispatch T last r (r :: t) = some s → Good T (r :: t) s := by
  fun_cases dispatch T last r (r :: t)
  -- branch 9 (no single-symbol entry) answers `none`: closed here
  all_goals rintro _ ⟨⟩
  · exact lexGlobalTime_good T _
  · exact lexLocalTime_good T _
  · exact lexBinding_good T _
  · exact lexNode_good T _
  · exact lexBlankNode_good T _
  · exact lexPredicateOrLiteral_good T _
  · split  -- a letter: after FILTER, or not
    · exact lexFilterFunction_good T _
    · exact lexKeyword_good T r t ‹_›
  · exact ⟨rfl, by simp, List.mem_append_left _ (List.mem_append_right _ (lookupSingle_mem ‹_›))⟩

/-- A token leaves less input: the fuel `|input| + 1` of `lex` never runs out. -/
theorem Good.fuel {T : LexTables K} {rest text rest' : List Rune} {k : K} {f : Nat}
    (h : Good T rest (.tok k text rest')) (hf : rest.length < f + 1) (p : Rune → Bool) :
    (rest'.dropWhile p).length < f := by
  have h1 := dropWhile_length_le p rest'
  have h2 := List.length_pos_iff.2 h.2.1
  have h3 := congrArg List.length h.1
  simp only [List.length_append] at h3
  omega

/-- Token texts are non-overlapping substrings of the input, in order. -/
inductive Ordered : List (List Rune) → List Rune → Prop
  | nil (input : List Rune) : Ordered [] input
  | cons (gap text rest : List Rune) (ts : List (List Rune)) :
      Ordered ts rest → Ordered (text :: ts) (gap ++ text ++ rest)

theorem Ordered.weaken {ts : List (List Rune)} {input : List Rune} (pre : List Rune) (h : Ordered ts input) :
    Ordered ts (pre ++ input) := by
  cases h with
  | nil => exact .nil _
  | cons gap text rest ts h => simpa using Ordered.cons (pre ++ gap) text rest ts h

theorem lexLoop_ordered (T : LexTables K) (f : Nat) (last : K) (pend rest : List Rune) (hf : rest.length < f) :
    Ordered ((lexLoop T f last pend rest).map (·.2)) (pend ++ rest) := by
  fun_induction lexLoop T f last pend rest
  case case1 => omega  -- no fuel: `hf`
  case case2 => simpa using Ordered.cons [] _ [] [] (.nil _)  -- end of input: EOF carries the junk
  case case3 f last pend r t k text rest' hd ih =>  -- a token; the spaces after it are skipped
    have hg := dispatch_good T last r t _ hd
    have := (ih (hg.fuel hf _)).weaken (rest'.takeWhile (·.space))
    rw [List.nil_append, List.takeWhile_append_dropWhile] at this
    simpa [← hg.1] using Ordered.cons [] (pend ++ text) rest' _ this
  case case4 f last pend r t text hd =>  -- the error token
    obtain ⟨tail, ht⟩ := dispatch_good T last r t _ hd
    simpa [← ht] using Ordered.cons [] (pend ++ text) tail [] (.nil _)
  -- 5–7: nothing starts at `r`. 5: a space; 6: the last rune; 7: `r` and the next rune become junk
  case case5 pend r t _ _ ih => simpa using (ih (by simp at hf; omega)).weaken (pend ++ [r])
  case case6 pend r _ _ => simpa using Ordered.cons [] (pend ++ [r]) [] [] (.nil _)
  case case7 ih => simpa using ih (by simp at hf; omega)

def OneTerminal (T : LexTables K) (out : List (K × List Rune)) : Prop :=
  ∃ body last, out = body ++ [last] ∧ (last.1 = T.tEOF ∨ last.1 = T.tError) ∧
    ∀ b ∈ body, b.1 ≠ T.tEOF ∧ b.1 ≠ T.tError

theorem oneTerminal_single {T : LexTables K} (x : K × List Rune) (hx : x.1 = T.tEOF ∨ x.1 = T.tError) :
    OneTerminal T [x] :=
  ⟨[], x, rfl, hx, by simp⟩

theorem oneTerminal_cons {T : LexTables K} {x : K × List Rune} {out : List (K × List Rune)}
    (hx : x.1 ≠ T.tEOF ∧ x.1 ≠ T.tError) : OneTerminal T out → OneTerminal T (x :: out)
  | ⟨body, last, e, hl, hb⟩ => ⟨x :: body, last, e ▸ rfl, hl, List.forall_mem_cons.2 ⟨hx, hb⟩⟩

theorem lexLoop_oneTerminal (T : LexTables K) (hT : TablesWF T) (f : Nat) (last : K) (pend rest : List Rune)
    (hf : rest.length < f) : OneTerminal T (lexLoop T f last pend rest) := by
  -- the cases as in `lexLoop_ordered`
  fun_induction lexLoop T f last pend rest
  case case1 => omega
  case case3 f last pend r t k text rest' hd ih =>
    have hg := dispatch_good T last r t _ hd
    exact oneTerminal_cons (hT k hg.2.2) (ih (hg.fuel hf _))
  case case4 => exact oneTerminal_single _ (.inr rfl)
  case case5 ih => exact ih (by simp at hf; omega)
  case case7 ih => exact ih (by simp at hf; omega)
  all_goals exact oneTerminal_single _ (.inl rfl)  -- 2, 6: EOF

/-- 63, 47, 95, 34: `?` `/` `_` `"`, the runes `dispatch` tests by code point. `C16.PlainSpace` is `hws` at the BQL tables. -/
theorem lexLoop_skip (T : LexTables K) (last : K) (ws rest : List Rune) (f : Nat)
    (hws : ∀ r ∈ ws, r.space = true ∧ r.digit = false ∧ r.letter = false ∧ r.cp ≠ 63 ∧ r.cp ≠ 47 ∧ r.cp ≠ 95 ∧ r.cp ≠ 34 ∧
      lookupSingle r.cp T.singles = none) :
    lexLoop T (f + ws.length) last [] (ws ++ rest) = lexLoop T f last [] rest := by
  induction ws with
  | nil => rfl
  | cons r ws ih =>
    obtain ⟨⟨hs, hd, hl, h63, h47, h95, h34, h1⟩, hws⟩ := List.forall_mem_cons.mp hws
    have hnone : dispatch T last r (r :: (ws ++ rest)) = none := by simp [dispatch, hd, hl, h63, h47, h95, h34, h1]
    rw [List.length_cons, ← Nat.add_assoc, List.cons_append, lexLoop.eq_def]
    simp only [hnone, if_pos hs]
    exact ih hws

end BW.Proofs.Lexer
