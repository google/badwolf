/-
The HAVING evaluator the engine builds (`newEvaluator`, mirror of `semantic.NewEvaluator`) is the reference
reading of the expression's tokens (`BW.Spec.specH`).
-/
import BW.Spec.Having
open BW.Model BW.Spec

namespace BW.Proofs.Having

/-- What `buildH` can leave unread: the end of the expression, or the `)` that closes an enclosing group. -/
def Closed : List HTok → Prop
  | [] => True
  | .rpar :: _ => True
  | _ => False

theorem Closed.cases {rest : List HTok} (h : Closed rest) : rest = [] ∨ ∃ r, rest = .rpar :: r := by
  unfold Closed at h
  split at h
  · exact .inl rfl
  · exact .inr ⟨_, rfl⟩
  · exact h.elim

/-- Where the builder stops the reference stops too: it reads on only at `AND` / `OR`, and what the builder leaves
    is `Closed`. -/
theorem buildH_eq_specH (f : Nat) (toks : List HTok) (e : HExpr) (rest : List HTok)
    (h : buildH f toks = some (e, rest)) (hc : Closed rest) : specH f toks = some (e, rest) := by
  fun_induction buildH f toks generalizing e rest
  -- the builder fails
  case case1 | case2 | case9 | case10 | case13 | case14 => cases h
  -- NOT e
  case case3 f tail ih =>
    obtain ⟨⟨e1, r1⟩, hb, he⟩ := Option.map_eq_some_iff.mp h
    cases he
    simp only [specH, ih e1 _ hb hc, Option.map_some]
  -- binding op operand
  case case4 | case5 | case6 | case7 | case8 =>
    cases h
    rcases hc.cases with rfl | ⟨_, rfl⟩ <;> rfl
  -- ( e ) AND/OR e'
  case case11 f tail e1 t1 t2 more bop isAnd hbop hb ih ih2 =>
    obtain ⟨⟨e2, r2⟩, hb2, he⟩ := Option.map_eq_some_iff.mp h
    cases he
    simp only [specH, ih e1 _ hb trivial]
    cases t1
    case and => cases (show some true = some isAnd from hbop); simp only [ih2 e2 _ hb2 hc, Option.map_some]; rfl
    case or => cases (show some false = some isAnd from hbop); simp only [ih2 e2 _ hb2 hc, Option.map_some]; rfl
    all_goals cases (show none = some isAnd from hbop)
  -- ( e )
  case case12 f tail e1 rest1 hb hn ih =>
    cases h
    simp only [specH, ih e1 _ hb trivial]
    rcases hc.cases with rfl | ⟨_, rfl⟩ <;> rfl

end BW.Proofs.Having
