/-
The specification's graph as a set of identity keys (`has`, `KeysNodup`) and its name map as a finite map: what the
sentences of C01 rest on.
-/
import BW.Spec.Store
import BW.Proofs.Assoc

namespace BW.Proofs.SetSem
open BW.Model BW.Spec

theorem mem_rem {g : SGraph} {t x : TView} : x ∈ g.rem t ↔ x ∈ g ∧ x.key ≠ t.key := by
  simp [SGraph.rem]

theorem has_iff {g : SGraph} {k : TKey} : g.has k = true ↔ ∃ x ∈ g, x.key = k := by
  simp [SGraph.has]

theorem has_rem (g : SGraph) (t : TView) (k : TKey) : (g.rem t).has k = (!(t.key == k) && g.has k) := by
  rw [Bool.eq_iff_iff]
  simp only [Bool.and_eq_true, Bool.not_eq_true', beq_eq_false_iff_ne, has_iff, mem_rem]
  constructor
  · rintro ⟨x, ⟨hx, hne⟩, rfl⟩; exact ⟨fun e => hne e.symm, x, hx, rfl⟩
  · rintro ⟨hne, x, hx, rfl⟩; exact ⟨x, ⟨hx, fun e => hne e.symm⟩, rfl⟩

theorem has_add (g : SGraph) (t : TView) (k : TKey) : (g.add t).has k = (t.key == k || g.has k) := by
  show SGraph.has (t :: g.rem t) k = _
  rw [SGraph.has, List.any_cons, ← SGraph.has, has_rem]
  cases t.key == k <;> rfl

def KeysNodup (g : SGraph) : Prop := (g.map TView.key).Nodup

theorem keysNodup_nil : KeysNodup [] := List.nodup_nil

theorem keysNodup_filter {g : SGraph} (h : KeysNodup g) (p : TView → Bool) : KeysNodup (g.filter p) := by
  unfold KeysNodup at *
  exact List.Nodup.sublist (List.Sublist.map _ List.filter_sublist) h

theorem keysNodup_add {g : SGraph} (h : KeysNodup g) (t : TView) : KeysNodup (g.add t) := by
  show ((t :: g.rem t).map TView.key).Nodup
  rw [List.map_cons, List.nodup_cons]
  refine ⟨fun hmem => ?_, keysNodup_filter h _⟩
  obtain ⟨x, hx, hk⟩ := List.mem_map.mp hmem
  exact (mem_rem.mp hx).2 hk

theorem keysNodup_addAll {g : SGraph} (h : KeysNodup g) (ts : List TView) : KeysNodup (g.addAll ts) :=
  List.foldlRecOn ts _ h fun _ h t _ => keysNodup_add h t

theorem keysNodup_remAll {g : SGraph} (h : KeysNodup g) (ts : List TView) : KeysNodup (g.remAll ts) :=
  List.foldlRecOn ts _ h fun _ h _ _ => keysNodup_filter h _

/-! ### The name map: `BW.Proofs.Assoc` at `SStore` -/

theorem get_update_eq (s : SStore) (n : Bytes) (f : SGraph → SGraph) :
    (s.update n f).get n = (s.get n).map f :=
  (Assoc.get_update s n n f).trans (if_pos rfl)

theorem get_new (s s' : SStore) (n : Bytes) (h : s.newGraph n = some s') :
    s'.get n = some [] ∧ ∀ n', n' ≠ n → s'.get n' = s.get n' := by
  unfold SStore.newGraph at h
  split at h
  · cases h
  · cases h
    exact ⟨(Assoc.get_cons ..).trans (if_pos rfl), fun n' hne => (Assoc.get_cons ..).trans (if_neg (Ne.symm hne))⟩

theorem get_delete (s s' : SStore) (n : Bytes) (h : s.deleteGraph n = some s') :
    s'.get n = none ∧ ∀ n', n' ≠ n → s'.get n' = s.get n' := by
  unfold SStore.deleteGraph at h
  split at h
  · cases h
    exact ⟨(Assoc.get_filter s n n).trans (if_pos rfl), fun n' hne => (Assoc.get_filter s n n').trans (if_neg hne)⟩
  · cases h

def NamesNodup (s : SStore) : Prop := (s.map (·.1)).Nodup

end BW.Proofs.SetSem
