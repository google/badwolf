/-
The token lists and runs over which C04 states that the statements that change a store mean what their tokens
say; the work is in `one_triple` (INSERT / DELETE) and `template_denote` (CONSTRUCT / DECONSTRUCT).
-/
import BW.Model.Hooks
open BW.Model BW.Model.Hooks BW.Model.Stm

namespace BW.Proofs.HooksStmt

def tk (k : HK) (text : Bytes := []) : HTk := { k := k, text := text }

def dataRun : List Triple → DAcc → List HTk → Option (List Triple × DAcc)
  | d, a, [] => some (d, a)
  | d, a, t :: rest => match dataStep d a t with
    | none => none
    | some (d', a') => dataRun d' a' rest

/-- The token of an object, with what `triple.ParseObject` makes of its text. -/
def objTk : Obj → HTk
  | .node n => { k := .node, node := some n, obj := some (.node n) }
  | .pred p => { k := .predicate, pred := some p, obj := some (.pred p) }
  | .lit l => { k := .literal, obj := some (.lit l) }

/-- One triple of the body, after its separator (`{` or `.`). -/
def tripleToks (t : Triple) : List HTk :=
  [tk .other, { k := .node, node := some t.s, obj := some (.node t.s) }, { k := .predicate, pred := some t.p, obj := some (.pred t.p) }, objTk t.o]

theorem one_triple (d : List Triple) (c : Nat) (t : Triple) (rest : List HTk) :
    dataRun d { cur := c } (tripleToks t ++ rest) = dataRun (d ++ [t]) { cur := c } rest := by
  obtain ⟨s, p, o⟩ := t
  cases o <;> rfl

def namesRun : List Bytes → List HTk → Option (List Bytes)
  | l, [] => some l
  | l, t :: rest => match namesStep l t with
    | none => none
    | some l' => namesRun l' rest

def commaToks : List Bytes → List HTk
  | [] => []
  | [g] => [tk .binding g]
  | g :: g' :: rest => tk .binding g :: tk .comma :: commaToks (g' :: rest)

inductive SA | node (n : Node) | bind (b : Bytes)
inductive PA | pred (p : Pred) | bind (b : Bytes)
inductive OA | obj (o : Obj) | bind (b : Bytes)
structure PairA where
  p : PA
  o : OA
structure ClauseA where
  s : SA
  pairs : List PairA

def sTk : SA → HTk
  | .node n => { k := .node, node := some n, obj := some (.node n) }
  | .bind b => tk .binding b
def pTk : PA → HTk
  | .pred p => { k := .predicate, pred := some p, obj := some (.pred p) }
  | .bind b => tk .binding b
def oTk : OA → HTk
  | .obj o => objTk o
  | .bind b => tk .binding b

def PairA.denote (a : PairA) : POPair :=
  let base : POPair := match a.p with
    | .pred p => { p := some p, pTemporal := isTemporal p }
    | .bind b => { pBinding := b }
  match a.o with
  | .obj (.pred q) => { base with o := some (.pred q), oTemporal := isTemporal q }
  | .obj o => { base with o := some o }
  | .bind b => { base with oBinding := b }

def ClauseA.denote (c : ClauseA) : CClause :=
  match c.s with
  | .node n => { s := some n, pairs := c.pairs.map PairA.denote }
  | .bind b => { sBinding := b, pairs := c.pairs.map PairA.denote }

/-- A BINDING token starts with `?`. -/
def PairA.ok (a : PairA) : Prop := (match a.p with | .bind b => b ≠ [] | _ => True) ∧ (match a.o with | .bind b => b ≠ [] | _ => True)
def ClauseA.ok (c : ClauseA) : Prop := (match c.s with | .bind b => b ≠ [] | _ => True) ∧ ∀ a ∈ c.pairs, a.ok

/-- What the hooks are handed for one predicate-object pair: CONSTRUCT_PREDICATE opens it, CONSTRUCT_OBJECT closes it. -/
def pairEvs (a : PairA) : List HEv := [.cPair, .tok .cPred (pTk a.p), .tok .cObj (oTk a.o), .cPair]

/-- `;` between pairs is a token no hook sees. -/
def pairsEvs : List PairA → List HEv
  | [] => []
  | [a] => pairEvs a
  | a :: b :: rest => pairEvs a ++ .tok .none (tk .other) :: pairsEvs (b :: rest)

/-- `.` between clauses; (DE)CONSTRUCT_TRIPLES and MORE_(DE)CONSTRUCT_TRIPLES both call the next-clause hook when
    they start and when they end. -/
def triplesEvs : List ClauseA → List HEv
  | [] => []
  | [c] => .cNext :: .tok .cSubj (sTk c.s) :: pairsEvs c.pairs ++ [.cNext]
  | c :: d :: rest => .cNext :: .tok .cSubj (sTk c.s) :: pairsEvs c.pairs ++ [.cNext, .tok .none (tk .other)] ++
      triplesEvs (d :: rest) ++ [.cNext, .cNext]

def FreshPair (c : WCC) : Prop := c.wpair = none ∨ c.wpair = some {}

theorem closePair_fresh (c : WCC) (h : FreshPair c) : c.closePair = { c with wpair := some {} } := by
  unfold WCC.closePair
  rcases h with h | h <;> rw [h] <;> simp [popIsEmpty]

theorem pair_steps (a : PairA) (ha : a.ok) :
    ∃ p1, cPredStep {} (pTk a.p) = some p1 ∧ cObjStep p1 (oTk a.o) = some a.denote ∧ popIsEmpty a.denote = false := by
  obtain ⟨p, o⟩ := a
  cases p with
  | pred p =>
    exact ⟨{ p := some p, pTemporal := isTemporal p }, rfl, by rcases o with (_ | _ | _) | _ <;> exact ⟨rfl, rfl⟩⟩
  | bind b =>
    have hb : b ≠ [] := ha.1
    refine ⟨{ pBinding := b }, rfl, ?_⟩
    rcases o with (_ | _ | _) | _ <;> exact ⟨rfl, by simp [PairA.denote, popIsEmpty, hb]⟩

theorem closePair_full (c : WCC) (p : POPair) (h : popIsEmpty p = false) :
    ({ c with wpair := some p } : WCC).closePair = { c with pairs := c.pairs ++ [p], wpair := some {} } := by
  simp only [WCC.closePair, h, Bool.false_eq_true, if_false]

/-! Stated with the events still to come (`k`), so that the runs chain by rewriting. -/

theorem one_pair (w : WState) (c : WCC) (hw : w.wcc = some c) (hf : FreshPair c) (a : PairA) (ha : a.ok) (k : List HEv) :
    wrun w (pairEvs a ++ k) =
      wrun { w with wcc := some { c with pairs := c.pairs ++ [a.denote], wpair := some {} } } k := by
  obtain ⟨p1, h1, h2, h3⟩ := pair_steps a ha
  simp only [pairEvs, List.cons_append, List.nil_append, wrun, wstep, hw, Option.map_some, closePair_fresh c hf,
    Option.bind_some, h1, h2]
  exact congrArg (fun c' => wrun { w with wcc := some c' } k) (closePair_full c _ h3)

theorem pairs_denote (w : WState) (c : WCC) (hw : w.wcc = some c) (hf : FreshPair c) (ps : List PairA)
    (hok : ∀ a ∈ ps, a.ok) (hne : ps ≠ []) (k : List HEv) :
    wrun w (pairsEvs ps ++ k) =
      wrun { w with wcc := some { c with pairs := c.pairs ++ ps.map PairA.denote, wpair := some {} } } k := by
  fun_induction pairsEvs ps generalizing w c with
  | case1 => exact absurd rfl hne
  | case2 a => exact one_pair w c hw hf a (hok a List.mem_cons_self) k
  | case3 a b rest ih =>
    rw [List.append_assoc, one_pair w c hw hf a (hok a List.mem_cons_self)]
    simp only [List.cons_append, wrun, wstep]
    rw [ih _ { c with pairs := c.pairs ++ [a.denote], wpair := some {} } rfl (Or.inr rfl)
      (fun x hx => hok x (List.mem_cons_of_mem _ hx)) (List.cons_ne_nil _ _)]
    simp only [List.append_assoc, List.map_cons, List.cons_append, List.nil_append]

theorem closeClause_empty (ccs : List CClause) : closeClause ccs (some {}) = ccs := rfl

theorem cNext_empty (w : WState) (hw : w.wcc = some {}) (k : List HEv) : wrun w (.cNext :: k) = wrun w k := by
  have h : wstep w .cNext = some w := by
    simp only [wstep, hw, closeClause_empty]
    rw [← hw]
  rw [wrun, h]

/-- After a pair the working pair is set (`some {}`), so the working clause is not empty whatever its subject, and is added. -/
theorem one_clause (w : WState) (hw : w.wcc = some {}) (c : ClauseA) (hp : ∀ a ∈ c.pairs, a.ok) (hne : c.pairs ≠ [])
    (k : List HEv) :
    wrun w (.cNext :: .tok .cSubj (sTk c.s) :: (pairsEvs c.pairs ++ .cNext :: k)) =
      wrun { w with head := { w.head with ccs := w.head.ccs ++ [c.denote] }, wcc := some {} } k := by
  obtain ⟨c0, h0, hp0, hd⟩ : ∃ c0 : WCC, cSubjStep {} (sTk c.s) = some c0 ∧ c0.wpair = none ∧
      ({ c0 with pairs := c0.pairs ++ c.pairs.map PairA.denote, wpair := some {} } : WCC).toClause = c.denote := by
    obtain ⟨s, ps⟩ := c
    cases s
    · exact ⟨{ s := some _ }, rfl, rfl, rfl⟩
    · exact ⟨{ sBinding := _ }, rfl, rfl, rfl⟩
  rw [cNext_empty w hw]
  simp only [wrun, wstep, hw, Option.bind_some, h0, Option.map_some]
  rw [pairs_denote _ c0 rfl (Or.inl hp0) c.pairs hp hne]
  simp only [wrun, wstep, closeClause, wccIsEmpty, Option.isNone_some, Bool.and_false, Bool.false_eq_true, if_false,
    hd]

theorem template_denote (cs : List ClauseA) (hok : ∀ c ∈ cs, c.ok ∧ c.pairs ≠ []) (w : WState) (hw : w.wcc = some {})
    (k : List HEv) :
    wrun w (triplesEvs cs ++ k) =
      wrun { w with head := { w.head with ccs := w.head.ccs ++ cs.map ClauseA.denote }, wcc := some {} } k := by
  fun_induction triplesEvs cs generalizing w k with
  | case1 => rw [List.map_nil, List.append_nil, ← hw]; rfl  -- no clause
  | case2 c =>  -- the last clause
    have hc := hok c List.mem_cons_self
    simp only [List.cons_append, List.append_assoc, List.nil_append]
    exact one_clause w hw c hc.1.2 hc.2 k
  | case3 c d rest ih =>  -- a clause, `.`, the rest
    have hc := hok c List.mem_cons_self
    simp only [List.cons_append, List.append_assoc, List.nil_append]
    rw [one_clause w hw c hc.1.2 hc.2]
    simp only [wrun, wstep]
    rw [ih (fun x hx => hok x (List.mem_cons_of_mem _ hx)) _ rfl]
    rw [cNext_empty _ rfl, cNext_empty _ rfl]
    simp only [List.append_assoc, List.map_cons, List.cons_append, List.nil_append]

end BW.Proofs.HooksStmt
