/-
The order in which the clauses of a graph pattern are written does not change its solutions (C14). A pattern of plain
clauses is the fold of `joinWith` over the clauses' match lists (`foldl_plain`); the rest is about lists of rows.
Extending a row by two matches is a symmetric condition with a symmetric result (`extendTwice_comm`: the three partial
functions agree pairwise, and then their union does not depend on the order); nested enumerations can be swapped
(`flatMap_comm_perm`); so two join steps commute, and with them every permutation of the match lists.
-/
import BW.Proofs.Join

namespace BW.Proofs.ClauseOrder
open BW.Model BW.Spec BW.Proofs.Lists

/-- A clause whose order in the pattern cannot matter by construction: not OPTIONAL, and its
    predicate is not bounded by bindings of other clauses. -/
def Plain (c : Clause) : Prop := c.optional = false ∧ c.pLowerAlias = [] ∧ c.pUpperAlias = []

/-- The matches of a plain clause on the scan do not depend on the row being extended. -/
def matchesOf (scan : List Triple) (glo ghi : Option Int) (c : Clause) : List Row :=
  scan.filterMap (matchClause c (clauseWindow glo ghi c []))

def joinWith (rows M : List Row) : List Row := rows.flatMap fun r => (M.filter (compatible r)).map r.merge

theorem joinClause_plain (scan : List Triple) (glo ghi : Option Int) (rows : List Row) (c : Clause) (h : Plain c) :
    joinClause scan glo ghi rows c = joinWith rows (matchesOf scan glo ghi c) := by
  rw [BW.Proofs.Query.joinClause_by, h.1, BW.Proofs.Query.joinBy_mandatory]
  refine flatMap_congr _ _ _ fun r _ => ?_
  have hw : clauseWindow glo ghi c r = clauseWindow glo ghi c [] := by
    unfold clauseWindow
    simp [h.2.1, h.2.2]
  rw [hw, matchesOf]

theorem foldl_plain (scan : List Triple) (glo ghi : Option Int) (cs : List Clause) (hc : ∀ c ∈ cs, Plain c) (rows : List Row) :
    cs.foldl (joinClause scan glo ghi) rows =
      (cs.map (matchesOf scan glo ghi)).foldl joinWith rows := by
  rw [List.foldl_map]
  exact List.foldl_rel (r := Eq) rfl fun c hm a _ e => e ▸ joinClause_plain scan glo ghi a c (hc c hm)

theorem matchesOf_nodup (scan : List Triple) (glo ghi : Option Int) (c : Clause) : AllNodup (matchesOf scan glo ghi c) := by
  intro m hm
  obtain ⟨t, _, ht⟩ := List.mem_filterMap.mp hm
  exact matchClause_nodup c _ t m ht

theorem joinWith_nodup {M rows : List Row} (hM : AllNodup M) (hr : AllNodup rows) : AllNodup (joinWith rows M) := by
  intro x hx
  obtain ⟨r, hrm, hx⟩ := List.mem_flatMap.mp hx
  obtain ⟨m, hm, rfl⟩ := List.mem_map.mp hx
  exact merge_nodup r m (hr r hrm) (hM m (List.mem_filter.mp hm).1)

theorem foldl_nodup (scan : List Triple) (glo ghi : Option Int) (cs : List Clause) (hc : ∀ c ∈ cs, Plain c)
    (rows : List Row) (hn : AllNodup rows) : AllNodup (cs.foldl (joinClause scan glo ghi) rows) :=
  List.foldlRecOn cs _ hn fun rows hn c hm =>
    joinClause_plain scan glo ghi rows c (hc c hm) ▸ joinWith_nodup (matchesOf_nodup scan glo ghi c) hn

theorem joinWith_congr {M rows rows' : List Row} (hn : AllNodup rows) (hn' : AllNodup rows')
    (h : (rows.map den).Perm (rows'.map den)) : ((joinWith rows M).map den).Perm ((joinWith rows' M).map den) := by
  unfold joinWith
  rw [List.map_flatMap, List.map_flatMap]
  apply flatMap_perm_of_map_perm _ h
  intro r hr r' hr' e
  rw [List.map_map, List.map_map,
    List.filter_congr fun m _ => compatible_congr r r' m m (hn r hr) (hn' r' hr') (rowEq_iff.mpr e) (RowEq.refl m)]
  apply List.map_congr_left
  intro m _
  simp only [Function.comp, den_merge, e]

theorem joinable_iff {r m1 m2 : Row} (hr : KeysNodup r) (h1 : KeysNodup m1) :
    (compatible r m1 && compatible (r.merge m1) m2) = true ↔
      Agree (den r) (den m1) ∧ Agree (den r) (den m2) ∧ Agree (den m1) (den m2) := by
  rw [Bool.and_eq_true, compatible_iff_agree r m1 hr, compatible_iff_agree _ m2 (merge_nodup r m1 hr h1), den_merge]
  exact and_congr_right agree_or

/-- What extending `r` by `m1` and then by `m2` contributes to the table, up to representation. -/
def extendTwice (r m1 m2 : Row) : List (Bytes → Option Cell) :=
  if compatible r m1 && compatible (r.merge m1) m2 then [den ((r.merge m1).merge m2)] else []

theorem extendTwice_comm {r m1 m2 : Row} (hr : KeysNodup r) (h1 : KeysNodup m1) (h2 : KeysNodup m2) :
    extendTwice r m1 m2 = extendTwice r m2 m1 := by
  have e : (compatible r m1 && compatible (r.merge m1) m2) = (compatible r m2 && compatible (r.merge m2) m1) := by
    rw [Bool.eq_iff_iff, joinable_iff hr h1, joinable_iff hr h2]
    exact ⟨fun ⟨a, b, c⟩ => ⟨b, a, c.symm⟩, fun ⟨a, b, c⟩ => ⟨b, a, c.symm⟩⟩
  unfold extendTwice
  rw [e]
  split
  · rename_i h
    rw [den_merge, den_merge, den_merge, den_merge, or_right_comm_of_agree ((joinable_iff hr h2).mp h).2.2.symm]
  · rfl

theorem den_joinWith_joinWith (M1 M2 rows : List Row) :
    (joinWith (joinWith rows M1) M2).map den = rows.flatMap fun r => M1.flatMap fun m1 => M2.flatMap fun m2 => extendTwice r m1 m2 := by
  unfold joinWith
  rw [List.flatMap_assoc, List.map_flatMap]
  apply flatMap_congr
  intro r _
  rw [List.flatMap_map, filter_flatMap_ite, List.map_flatMap]
  apply flatMap_congr
  intro m1 _
  unfold extendTwice
  cases compatible r m1
  · simp
  · rw [if_pos rfl, List.map_map, List.map_eq_flatMap, filter_flatMap_ite]
    simp

theorem joinWith_swap {M1 M2 rows : List Row} (hM1 : AllNodup M1) (hM2 : AllNodup M2) (hn : AllNodup rows) :
    ((joinWith (joinWith rows M1) M2).map den).Perm ((joinWith (joinWith rows M2) M1).map den) := by
  rw [den_joinWith_joinWith, den_joinWith_joinWith]
  apply flatMap_perm_left
  intro r hr
  refine (flatMap_comm_perm M1 M2 (extendTwice r)).trans (List.Perm.of_eq ?_)
  apply flatMap_congr
  intro m2 h2
  apply flatMap_congr
  intro m1 h1
  exact extendTwice_comm (hn r hr) (hM1 m1 h1) (hM2 m2 h2)

section foldl
variable {Ms Ms' : List (List Row)} {rows rows' : List Row}

theorem foldl_joinWith_congr (hM : ∀ M ∈ Ms, AllNodup M) (hn : AllNodup rows) (hn' : AllNodup rows')
    (h : (rows.map den).Perm (rows'.map den)) :
    ((Ms.foldl joinWith rows).map den).Perm ((Ms.foldl joinWith rows').map den) :=
  (List.foldl_rel (r := fun a b => AllNodup a ∧ AllNodup b ∧ (a.map den).Perm (b.map den)) ⟨hn, hn', h⟩
    fun M hm _ _ ⟨ha, hb, hab⟩ => ⟨joinWith_nodup (hM M hm) ha, joinWith_nodup (hM M hm) hb, joinWith_congr ha hb hab⟩).2.2

theorem foldl_joinWith_perm (hp : Ms.Perm Ms') (hM : ∀ M ∈ Ms, AllNodup M) : ∀ rows, AllNodup rows →
    ((Ms.foldl joinWith rows).map den).Perm ((Ms'.foldl joinWith rows).map den) := by
  induction hp with
  | nil => exact fun _ _ => .refl _
  | cons M _ ih =>
    intro rows hn
    exact ih (fun x hx => hM x (List.mem_cons_of_mem _ hx)) _ (joinWith_nodup (hM M List.mem_cons_self) hn)
  | swap M2 M1 Ms =>
    intro rows hn
    have h1 := hM M1 List.mem_cons_self
    have h2 := hM M2 (List.mem_cons_of_mem _ List.mem_cons_self)
    exact foldl_joinWith_congr (Ms := Ms) (fun x hx => hM x (List.mem_cons_of_mem _ (List.mem_cons_of_mem _ hx)))
      (joinWith_nodup h2 (joinWith_nodup h1 hn)) (joinWith_nodup h1 (joinWith_nodup h2 hn)) (joinWith_swap h1 h2 hn)
  | trans hp1 _ ih1 ih2 =>
    intro rows hn
    exact (ih1 hM rows hn).trans (ih2 (fun x hx => hM x (hp1.symm.subset hx)) rows hn)

end foldl

theorem solutions_clause_perm (scan : List Triple) (glo ghi : Option Int) {cs cs' : List Clause} (hp : cs.Perm cs')
    (hc : ∀ c ∈ cs, Plain c) : ((solutions scan glo ghi cs).map den).Perm ((solutions scan glo ghi cs').map den) := by
  unfold solutions
  rw [foldl_plain scan glo ghi cs hc, foldl_plain scan glo ghi cs' fun c h => hc c (hp.mem_iff.mpr h)]
  exact foldl_joinWith_perm (hp.map _) (List.forall_mem_map.mpr fun c _ => matchesOf_nodup scan glo ghi c) [[]]
    fun _ hr => List.mem_singleton.mp hr ▸ List.nodup_nil

/-- What a result table shows of a row: the cells of the selected bindings, anchors as instants. -/
def obs (ks : List Bytes) (r : Row) : List (Option Cell) := ks.map fun k => (r.get k).map normCell

theorem perm_obs (ks : List Bytes) {l l' : List Row} (h : (l.map den).Perm (l'.map den)) :
    (l.map (obs ks)).Perm (l'.map (obs ks)) := by
  have := h.map fun d => ks.map d
  rwa [List.map_map, List.map_map] at this

end BW.Proofs.ClauseOrder
