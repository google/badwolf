/-
Sorting by a comparison that is a total order *on the rows at hand* yields one sequence, whatever order the rows
arrive in (C14; that the result is sorted is C12's `order_by_sorted`).  `rowLe` is not transitive on arbitrary rows (cells of different kinds compare as equal), so the
order properties are only demanded of the members of the list.
-/
namespace BW.Proofs.Determinism

variable {α : Type}

/-- Sort the list of members (`attach`), where the comparison is total and transitive everywhere. -/
theorem pairwise_mergeSort_of_mem (le : α → α → Bool) (l : List α)
    (trans : ∀ a ∈ l, ∀ b ∈ l, ∀ c ∈ l, le a b = true → le b c = true → le a c = true)
    (total : ∀ a ∈ l, ∀ b ∈ l, (le a b || le b a) = true) :
    (l.mergeSort le).Pairwise fun a b => le a b = true := by
  have h := List.map_mergeSort (r := fun a b : { x // x ∈ l } => le a.1 b.1) (s := le) (f := Subtype.val) (l := l.attach)
    fun _ _ _ _ => rfl
  rw [List.attach_map_subtype_val] at h
  rw [← h]
  exact (List.pairwise_mergeSort (fun a b c => trans a.1 a.2 b.1 b.2 c.1 c.2) (fun a b => total a.1 a.2 b.1 b.2) _).map _
    fun _ _ hab => hab

theorem mergeSort_deterministic (le : α → α → Bool) (l l' : List α) (hp : l.Perm l')
    (trans : ∀ a ∈ l, ∀ b ∈ l, ∀ c ∈ l, le a b = true → le b c = true → le a c = true)
    (total : ∀ a ∈ l, ∀ b ∈ l, (le a b || le b a) = true)
    (anti : ∀ a ∈ l, ∀ b ∈ l, le a b = true → le b a = true → a = b) :
    l.mergeSort le = l'.mergeSort le :=
  have m : ∀ {a}, a ∈ l' → a ∈ l := fun h => hp.symm.subset h
  List.Perm.eq_of_pairwise
    (fun a b ha hb => anti a ((List.mergeSort_perm l le).subset ha) b (m ((List.mergeSort_perm l' le).subset hb)))
    (pairwise_mergeSort_of_mem le l trans total)
    (pairwise_mergeSort_of_mem le l' (fun a ha b hb c hc => trans a (m ha) b (m hb) c (m hc))
      fun a ha b hb => total a (m ha) b (m hb))
    ((List.mergeSort_perm l le).trans (hp.trans (List.mergeSort_perm l' le).symm))

end BW.Proofs.Determinism
