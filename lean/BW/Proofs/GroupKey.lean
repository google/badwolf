/-
The key `Table.Reduce` builds for a group (bql/table/table.go, 7f64a50): every grouping value written as
`<length>:<value>;`. It identifies the list of component keys (`encKey_inj`), which is what the model's `groupId` is.
-/
import BW.Model.QueryPost
import BW.Proofs.Lists
import BW.Proofs.Text
open BW.Model

namespace BW.Proofs.GroupKey

/-- `%d`. -/
def natDec (n : Nat) : Bytes := (Nat.toDigits 10 n).map fun c => c.toNat.toUInt8

def encKey (ks : List Bytes) : Bytes := ks.flatMap fun k => natDec k.length ++ [58] ++ k ++ [59]

/-- `Text.digits` is what the model's `fmtInt` prints of a natural number; compared for its `digits_spec`. -/
theorem natDec_eq_digits (n : Nat) : natDec n = Text.digits n := by
  have digit : ∀ d : Fin 10, (Nat.digitChar d.val).toNat.toUInt8 = UInt8.ofNat (48 + d.val) := by decide
  fun_induction Text.digits n with
  | case1 n h => rw [natDec, Nat.toDigits_of_lt_base h]; exact congrArg (· :: []) (digit ⟨n, h⟩)
  | case2 n h ih =>
    rw [natDec, Nat.toDigits_of_base_le (by decide) (by omega), List.map_append, ← natDec, ih]
    exact congrArg (_ ++ [·]) (digit ⟨n % 10, Nat.mod_lt _ (by decide)⟩)

theorem sep_not_in_natDec (n : Nat) : (58 : UInt8) ∉ natDec n := fun h =>
  absurd (List.all_eq_true.mp (Proofs.Text.digits_spec n).2.1 58 (natDec_eq_digits n ▸ h)) (by decide)

theorem natDec_inj (n m : Nat) (h : natDec n = natDec m) : n = m := by
  rw [natDec_eq_digits, natDec_eq_digits] at h
  rw [← (Proofs.Text.digits_spec n).1, h, (Proofs.Text.digits_spec m).1]

theorem encKey_cons (k : Bytes) (ks : List Bytes) :
    encKey (k :: ks) = natDec k.length ++ 58 :: (k ++ 59 :: encKey ks) := by
  simp [encKey]

theorem encKey_ne_nil (k : Bytes) (ks : List Bytes) : encKey (k :: ks) ≠ [] :=
  encKey_cons k ks ▸ List.append_ne_nil_of_right_ne_nil _ (List.cons_ne_nil _ _)

/-- Whatever bytes the values hold: `;`, `:` and digits included. -/
theorem encKey_inj (ks ks' : List Bytes) (h : encKey ks = encKey ks') : ks = ks' := by
  induction ks generalizing ks' with
  | nil => cases ks' with
    | nil => rfl
    | cons k' ks' => exact absurd h.symm (encKey_ne_nil k' ks')
  | cons k ks ih => cases ks' with
    | nil => exact absurd h (encKey_ne_nil k ks)
    | cons k' ks' =>
      rw [encKey_cons, encKey_cons] at h
      obtain ⟨hd, hrest⟩ := Lists.append_stop_inj (sep_not_in_natDec _) (sep_not_in_natDec _) h
      obtain ⟨e1, e2⟩ := List.append_inj hrest (natDec_inj _ _ hd)
      rw [e1, ih ks' (List.tail_eq_of_cons_eq e2)]
end BW.Proofs.GroupKey
