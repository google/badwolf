/-
The hooks of `BW.Model.Hooks`. None of the six closures keeps state between statements (`wrun_sim`, C18). Each of
the three WHERE-clause hooks, on a clause whose part is still empty, builds what that part's tokens denote
(`…_denote`, C03) — over `runPart`, not over `wrun`: no lemma relates the two.
-/
import BW.Model.Hooks
open BW.Model BW.Model.Hooks

namespace BW.Proofs.Hooks

theorem enter_of_ne {h : HState} {s : Nat} (hc : h.cur ≠ s) : h.enter s = { cur := s } := if_neg hc

theorem enter_cur (h : HState) (s : Nat) : (h.enter s).cur = s := by
  unfold HState.enter
  split
  · assumption
  · rfl

theorem enter_enter (h : HState) (s : Nat) : (h.enter s).enter s = h.enter s :=
  if_pos (enter_cur h s)

theorem benter_of_ne {b : BState} {s : Nat} (hc : b.cur ≠ s) : b.enter s = { cur := s } := if_neg hc

theorem benter_cur (b : BState) (s : Nat) : (b.enter s).cur = s := by
  unfold BState.enter
  split
  · assumption
  · rfl

theorem benter_enter (b : BState) (s : Nat) : (b.enter s).enter s = b.enter s :=
  if_pos (benter_cur b s)

theorem denter_of_ne {a : DAcc} {s : Nat} (hc : a.cur ≠ s) : a.enter s = { cur := s } := if_neg hc

theorem denter_cur (a : DAcc) (s : Nat) : (a.enter s).cur = s := by
  unfold DAcc.enter
  split
  · assumption
  · rfl

theorem denter_enter (a : DAcc) (s : Nat) : (a.enter s).enter s = a.enter s :=
  if_pos (denter_cur a s)

/-- The state as the next event sees it: `wstep` reads a closure only after `enter`. -/
def entered (w : WState) : WState :=
  { w with hs := w.hs.enter w.stmt, hp := w.hp.enter w.stmt, ho := w.ho.enter w.stmt, hv := w.hv.enter w.stmt,
           hb := w.hb.enter w.stmt, da := w.da.enter w.stmt }

/-- `enter` is idempotent, and `wstep` leaves alone the closures it does not read. -/
theorem wstep_entered (w : WState) (e : HEv) :
    (wstep (entered w) e).map entered = (wstep w e).map entered := by
  cases e
  case tok part tk =>
    cases part <;>
      simp only [wstep, entered, enter_enter, benter_enter, denter_enter, Option.map_map, Option.map_some,
        Option.map_bind, Function.comp_def]
  all_goals
    simp only [wstep, entered, enter_enter, benter_enter, denter_enter, Option.map_map, Option.map_some,
      Function.comp_def]
  -- `.next`: the two sides differ in how the `if` is decided
  rfl

theorem wrun_entered (evs : List HEv) (w : WState) :
    (wrun (entered w) evs).map entered = (wrun w evs).map entered := by
  induction evs generalizing w with
  | nil => simp only [wrun, Option.map_some, entered, enter_enter, benter_enter, denter_enter]
  | cons e evs ih =>
    have h := wstep_entered w e
    simp only [wrun]
    cases h1 : wstep w e <;> cases h2 : wstep (entered w) e <;>
      simp only [h1, h2, Option.map_some, Option.map_none, Option.some.injEq, reduceCtorEq] at h
    · rfl
    · rw [← ih, h, ih]

def WState.built (w : WState) : List Clause × Head := (w.pattern, w.head)

/-- What a run builds depends on the closures only through `entered` (C18's `hooks_keep_no_state`). -/
theorem wrun_sim {w w' : WState} (h : entered w = entered w') (evs : List HEv) :
    (wrun w evs).map WState.built = (wrun w' evs).map WState.built := by
  have key (w : WState) : (wrun w evs).map WState.built = ((wrun (entered w) evs).map entered).map WState.built := by
    rw [wrun_entered, Option.map_map]
    rfl
  rw [key w, key w', h]

def kwTok (k : HK) : HTk := { k := k }
def bTok (x : Bytes) : HTk := { k := .binding, text := x }

/-- `AS ?x`, `TYPE ?x`, `ID ?x`, `AT ?x`. -/
def modToks (mods : List (HK × Bytes)) : List HTk := mods.flatMap fun m => [kwTok m.1, bTok m.2]

def runPart (step : Clause → Option HK → HTk → Option (Clause × Option HK)) :
    Clause → Option HK → List HTk → Option (Clause × Option HK)
  | c, l, [] => some (c, l)
  | c, l, tk :: tks => match step c l tk with
    | none => none
    | some (c', l') => runPart step c' l' tks

def ValidMods (allowed : List HK) (mods : List (HK × Bytes)) : Prop :=
  (mods.map (·.1)).Nodup ∧ ∀ m ∈ mods, m.1 ∈ allowed

/-- A hook handles modifiers when: a modifier keyword is remembered; the binding after it lands in the
    field of that keyword, provided the field is still empty; and no other field is touched. -/
structure Handles (step : Clause → Option HK → HTk → Option (Clause × Option HK)) (allowed : List HK)
    (set : HK → Bytes → Clause → Clause) (field : HK → Clause → Bytes) : Prop where
  kw : ∀ c, ∀ k ∈ allowed, step c none (kwTok k) = some (c, some k)
  bind : ∀ c x, ∀ k ∈ allowed, field k c = [] → step c (some k) (bTok x) = some (set k x c, none)
  frame : ∀ c x, ∀ k ∈ allowed, ∀ k' ∈ allowed, k ≠ k' → field k' (set k x c) = field k' c

theorem mods_denote {step allowed set field} (H : Handles step allowed set field) :
    ∀ (mods : List (HK × Bytes)) (c : Clause), ValidMods allowed mods → (∀ m ∈ mods, field m.1 c = []) →
      runPart step c none (modToks mods) = some (mods.foldl (fun c m => set m.1 m.2 c) c, none) := by
  intro mods
  induction mods with
  | nil => intro c _ _; rfl
  | cons m mods ih =>
    intro c ⟨hn, ha⟩ hf
    simp only [List.map_cons, List.nodup_cons] at hn
    have hm := ha m List.mem_cons_self
    simp only [modToks, List.flatMap_cons, List.cons_append, List.nil_append, runPart,
      H.kw c m.1 hm, H.bind c m.2 m.1 hm (hf m List.mem_cons_self), List.foldl_cons]
    apply ih (set m.1 m.2 c) ⟨hn.2, fun m' hm' => ha m' (List.mem_cons_of_mem _ hm')⟩
    intro m' hm'
    have hne : m.1 ≠ m'.1 := fun e => hn.1 (e ▸ List.mem_map.mpr ⟨m', hm', rfl⟩)
    rw [H.frame c m.2 m.1 hm m'.1 (ha m' (List.mem_cons_of_mem _ hm')) hne]
    exact hf m' (List.mem_cons_of_mem _ hm')

theorem part_denote {step allowed set field} (H : Handles step allowed set field) {c c' : Clause} {t : HTk}
    (h0 : step c none t = some (c', none)) (hf : ∀ k ∈ allowed, field k c' = []) {mods : List (HK × Bytes)}
    (hv : ValidMods allowed mods) :
    runPart step c none (t :: modToks mods) = some (mods.foldl (fun c m => set m.1 m.2 c) c', none) := by
  simp only [runPart, h0]
  exact mods_denote H mods c' hv fun m hm => hf _ (hv.2 m hm)

def setS : HK → Bytes → Clause → Clause
  | .as_, x, c => { c with sAlias := x }
  | .type_, x, c => { c with sTypeAlias := x }
  | .id_, x, c => { c with sIDAlias := x }
  | _, _, c => c
def fieldS : HK → Clause → Bytes
  | .as_, c => c.sAlias | .type_, c => c.sTypeAlias | .id_, c => c.sIDAlias | _, _ => []

def setP : HK → Bytes → Clause → Clause
  | .as_, x, c => { c with pAlias := x }
  | .id_, x, c => { c with pIDAlias := x }
  | .at_, x, c => { c with pAnchorAlias := x }
  | _, _, c => c
def fieldP : HK → Clause → Bytes
  | .as_, c => c.pAlias | .id_, c => c.pIDAlias | .at_, c => c.pAnchorAlias | _, _ => []

def setO : HK → Bytes → Clause → Clause
  | .as_, x, c => { c with oAlias := x }
  | .type_, x, c => { c with oTypeAlias := x }
  | .id_, x, c => { c with oIDAlias := x }
  | .at_, x, c => { c with oAnchorAlias := x }
  | _, _, c => c
def fieldO : HK → Clause → Bytes
  | .as_, c => c.oAlias | .type_, c => c.oTypeAlias | .id_, c => c.oIDAlias | .at_, c => c.oAnchorAlias | _, _ => []

/-! In `bind` the step is an `if` on the emptiness of the field (`hf`). -/

theorem subj_handles : Handles subjStep [.as_, .type_, .id_] setS fieldS := by
  refine ⟨fun c k hk => ?_, fun c x k hk hf => ?_, fun c x k hk k' hk' hne => ?_⟩ <;>
    simp only [List.mem_cons, List.mem_nil_iff, or_false] at hk
  · rcases hk with rfl | rfl | rfl <;> rfl
  · rcases hk with rfl | rfl | rfl
    · exact if_neg (not_not_intro hf)
    · exact if_neg (not_not_intro hf)
    · exact if_pos hf
  · simp only [List.mem_cons, List.mem_nil_iff, or_false] at hk'
    rcases hk with rfl | rfl | rfl <;> rcases hk' with rfl | rfl | rfl <;> first | rfl | exact absurd rfl hne

theorem pred_handles : Handles predStep [.as_, .id_, .at_] setP fieldP := by
  refine ⟨fun c k hk => ?_, fun c x k hk hf => ?_, fun c x k hk k' hk' hne => ?_⟩ <;>
    simp only [List.mem_cons, List.mem_nil_iff, or_false] at hk
  · rcases hk with rfl | rfl | rfl <;> rfl
  · rcases hk with rfl | rfl | rfl <;> exact if_neg (not_not_intro hf)
  · simp only [List.mem_cons, List.mem_nil_iff, or_false] at hk'
    rcases hk with rfl | rfl | rfl <;> rcases hk' with rfl | rfl | rfl <;> first | rfl | exact absurd rfl hne

theorem obj_handles : Handles objStep [.as_, .type_, .id_, .at_] setO fieldO := by
  refine ⟨fun c k hk => ?_, fun c x k hk hf => ?_, fun c x k hk k' hk' hne => ?_⟩ <;>
    simp only [List.mem_cons, List.mem_nil_iff, or_false] at hk
  · rcases hk with rfl | rfl | rfl | rfl <;> rfl
  · rcases hk with rfl | rfl | rfl | rfl <;> exact if_neg (not_not_intro hf)
  · simp only [List.mem_cons, List.mem_nil_iff, or_false] at hk'
    rcases hk with rfl | rfl | rfl | rfl <;> rcases hk' with rfl | rfl | rfl | rfl <;>
      first | rfl | exact absurd rfl hne

inductive SBase | node (n : Node) | binding (b : Bytes)
inductive PBase | full (p : Pred) | part (id ta : Bytes) | bound (b : BoundP) | binding (b : Bytes)
inductive OBase | value (o : Obj) (isNode : Bool) | full (p : Pred) | part (id ta : Bytes) | bound (b : BoundP) | binding (b : Bytes)

def sTok : SBase → HTk
  | .node n => { k := .node, node := some n, obj := some (.node n) }
  | .binding b => bTok b
def pTok : PBase → HTk
  | .full p => { k := .predicate, pred := some p }
  | .part id ta => { k := .predicate, part := some (id, ta) }
  | .bound b => { k := .predicateBound, bound := some b }
  | .binding b => bTok b
def oTok : OBase → HTk
  | .value o isNode => { k := if isNode then .node else .literal, obj := some o }
  | .full p => { k := .predicate, pred := some p }
  | .part id ta => { k := .predicate, part := some (id, ta) }
  | .bound b => { k := .predicateBound, bound := some b }
  | .binding b => bTok b

def denoteS (c : Clause) : SBase → Clause
  | .node n => { c with s := some n }
  | .binding b => { c with sBinding := b }
def denoteP (c : Clause) : PBase → Clause
  | .full p => { c with p := some p, pID := [], pAnchorBinding := [], pTemporal := isTemporal p }
  | .part id ta => { c with p := none, pID := id, pAnchorBinding := ta, pTemporal := ta ≠ [] }
  | .bound b => { c with pID := b.id, pLowerAlias := b.loAlias, pUpperAlias := b.hiAlias, pLower := b.lo, pUpper := b.hi, pTemporal := true }
  | .binding b => { c with pBinding := b }
def denoteO (c : Clause) : OBase → Clause
  | .value o _ => { c with o := some o }
  | .full p => { c with o := some (.pred p), oID := [], oAnchorBinding := [], oTemporal := isTemporal p }
  | .part id ta => { c with o := none, oID := id, oAnchorBinding := ta, oTemporal := ta ≠ [] }
  | .bound b => { c with oID := b.id, oLowerAlias := b.loAlias, oUpperAlias := b.hiAlias, oLower := b.lo, oUpper := b.hi, oTemporal := true }
  | .binding b => { c with oBinding := b }

/-- A clause as written: per position the base token and the aliases in the order written. `denote` writes the
    fields the hooks write (`pID := []` for a full predicate), so that `…_denote` are equalities of records. -/
structure ClauseAST where
  optional : Bool := false
  sb : SBase
  smods : List (HK × Bytes) := []
  pb : PBase
  pmods : List (HK × Bytes) := []
  ob : OBase
  omods : List (HK × Bytes) := []

structure ClauseAST.Valid (a : ClauseAST) : Prop where
  s : ValidMods [.as_, .type_, .id_] a.smods
  p : ValidMods [.as_, .id_, .at_] a.pmods
  o : ValidMods [.as_, .type_, .id_, .at_] a.omods

def denote (a : ClauseAST) : Clause :=
  let c0 : Clause := { optional := a.optional }
  let c1 := a.smods.foldl (fun c m => setS m.1 m.2 c) (denoteS c0 a.sb)
  let c2 := a.pmods.foldl (fun c m => setP m.1 m.2 c) (denoteP c1 a.pb)
  a.omods.foldl (fun c m => setO m.1 m.2 c) (denoteO c2 a.ob)

/-! The three hooks write disjoint fields: clearing a part commutes with what the hooks of the parts before it
    write, so a part empty before them is empty after them. `clearP c = c`: the predicate part of `c` is empty. -/

def clearS (c : Clause) : Clause := { c with s := none, sBinding := [], sAlias := [], sTypeAlias := [], sIDAlias := [] }

def clearP (c : Clause) : Clause :=
  { c with p := none, pID := [], pBinding := [], pAlias := [], pIDAlias := [], pAnchorBinding := [], pAnchorAlias := [],
           pLower := none, pUpper := none, pLowerAlias := [], pUpperAlias := [], pTemporal := false }

def clearO (c : Clause) : Clause :=
  { c with o := none, oBinding := [], oAlias := [], oID := [], oTypeAlias := [], oIDAlias := [], oAnchorBinding := [],
           oAnchorAlias := [], oLower := none, oUpper := none, oLowerAlias := [], oUpperAlias := [], oTemporal := false }

theorem clearP_setS (k x c) : clearP (setS k x c) = setS k x (clearP c) := by unfold setS; split <;> rfl
theorem clearO_setS (k x c) : clearO (setS k x c) = setS k x (clearO c) := by unfold setS; split <;> rfl
theorem clearO_setP (k x c) : clearO (setP k x c) = setP k x (clearO c) := by unfold setP; split <;> rfl
theorem clearP_denoteS (c b) : clearP (denoteS c b) = denoteS (clearP c) b := by cases b <;> rfl
theorem clearO_denoteS (c b) : clearO (denoteS c b) = denoteS (clearO c) b := by cases b <;> rfl
theorem clearO_denoteP (c b) : clearO (denoteP c b) = denoteP (clearO c) b := by cases b <;> rfl

theorem fixed_after_part {β : Type} {set : HK → Bytes → Clause → Clause} {den : Clause → β → Clause} {g : Clause → Clause}
    (hs : ∀ k x c, g (set k x c) = set k x (g c)) (hd : ∀ c b, g (den c b) = den (g c) b)
    {c : Clause} (h : g c = c) (b : β) (mods : List (HK × Bytes)) :
    g (mods.foldl (fun c m => set m.1 m.2 c) (den c b)) = mods.foldl (fun c m => set m.1 m.2 c) (den c b) := by
  rw [← List.foldl_hom g (g₂ := fun c m => set m.1 m.2 c) fun c m => (hs m.1 m.2 c).symm, hd, h]

/-! With `c` written as `clearX c`, the step on the base token and the emptiness of the alias fields hold by
    computation. -/

theorem subj_denote {c : Clause} (h : clearS c = c) (b : SBase) {mods} (hv : ValidMods [.as_, .type_, .id_] mods) :
    runPart subjStep c none (sTok b :: modToks mods) =
      some (mods.foldl (fun c m => setS m.1 m.2 c) (denoteS c b), none) := by
  rw [← h]
  refine part_denote subj_handles (by cases b <;> rfl) (fun k hk => ?_) hv
  simp only [List.mem_cons, List.mem_nil_iff, or_false] at hk
  rcases hk with rfl | rfl | rfl <;> cases b <;> rfl

theorem pred_denote {c : Clause} (h : clearP c = c) (b : PBase) {mods} (hv : ValidMods [.as_, .id_, .at_] mods) :
    runPart predStep c none (pTok b :: modToks mods) =
      some (mods.foldl (fun c m => setP m.1 m.2 c) (denoteP c b), none) := by
  rw [← h]
  refine part_denote pred_handles (by cases b <;> rfl) (fun k hk => ?_) hv
  simp only [List.mem_cons, List.mem_nil_iff, or_false] at hk
  rcases hk with rfl | rfl | rfl <;> cases b <;> rfl

theorem obj_denote {c : Clause} (h : clearO c = c) (b : OBase) {mods} (hv : ValidMods [.as_, .type_, .id_, .at_] mods) :
    runPart objStep c none (oTok b :: modToks mods) =
      some (mods.foldl (fun c m => setO m.1 m.2 c) (denoteO c b), none) := by
  rw [← h]
  refine part_denote obj_handles (by rcases b with ⟨o, _ | _⟩ | _ | _ | _ | _ <;> rfl) (fun k hk => ?_) hv
  simp only [List.mem_cons, List.mem_nil_iff, or_false] at hk
  rcases hk with rfl | rfl | rfl | rfl <;> cases b <;> rfl

def optToks (a : ClauseAST) : List HTk := if a.optional then [kwTok .optional, kwTok .lbracket] else []

theorem optToks_run (a : ClauseAST) (ts : List HTk) :
    runPart subjStep {} none (optToks a ++ ts) = runPart subjStep { optional := a.optional } none ts := by
  unfold optToks
  cases a.optional <;> rfl

end BW.Proofs.Hooks
