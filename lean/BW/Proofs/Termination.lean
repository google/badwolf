/-
The predictive parser decides every token sequence within an explicit number of machine steps (C08): a step
shortens the work stack, or consumes a token while growing the stack by at most the longest alternative.  Needs:
no rule mentions the end-of-input token (a non-empty alternative is then selected only on a real token).
-/
import BW.Proofs.Parser

namespace BW.Proofs.Termination
open BW.Model BW.Proofs.Parser

variable {K S : Type} [DecidableEq K]

/-- A token weighs `M + 1` stack items: taking a non-empty alternative consumes one token and grows
    the stack by at most `M` (the symbol goes; the rest of the alternative and two end markers come). -/
def potential (M : Nat) (stack : List (Item K S)) (ts : List K) : Nat := stack.length + ts.length * (M + 1)

theorem run_terminates (g : Grammar K S) (hg : NoEofG g) (M : Nat)
    (hM : ∀ x, ∀ alt ∈ g.rules x, alt.length ≤ M) :
    ∀ (f : Nat) (stack : List (Item K S)) (ts : List K) (evs : List (Ev K S K)),
      potential M stack ts < f → run g id g.eof f stack ts evs ≠ .nofuel := by
  intro f stack ts evs h
  -- the cases are the branches of `run`, numbered as at `Parser.run_sound`
  fun_induction run g id g.eof f stack ts evs
  case case1 => exact absurd h (Nat.not_lt_zero _)
  -- a marker, or the empty alternative: one item less
  case case3 ih | case4 ih | case9 ih => exact ih (by simp only [potential, List.length_cons] at h ⊢; omega)
  -- a token matches: one item less
  case case5 ts _ _ _ _ ih | case6 ts _ ih =>
    refine ih ?_
    have := Nat.mul_le_mul_right (M + 1) (Nat.sub_le ts.length 1)
    simp only [potential, List.length_cons, List.length_tail] at h ⊢
    omega
  -- a non-empty alternative: one token goes, at most `M` items come
  case case10 x _ _ _ _ _ _ _ hsel _ ih =>
    -- the input is not exhausted: the alternative would start with the end-of-input token
    obtain ⟨hm, t, ts', rfl, rfl⟩ := selectAlt_cons hg hsel
    have := hM x _ hm
    refine ih ?_
    simp only [potential, List.length_cons, List.length_append, List.length_map, List.tail_cons, Nat.succ_mul] at h this ⊢
    omega
  all_goals simp    -- 2, 7, 8: `run` stops with a verdict

def fuelFor (M n : Nat) : Nat := n * (M + 1) + 2

theorem parse_terminates (g : Grammar K S) (hg : NoEofG g) (M : Nat)
    (hM : ∀ x, ∀ alt ∈ g.rules x, alt.length ≤ M) (ts : List K) (f : Nat) (hf : fuelFor M ts.length ≤ f) :
    parseKinds g f ts ≠ .nofuel := by
  apply run_terminates g hg M hM
  simp only [potential, List.length_cons, List.length_nil, fuelFor] at hf ⊢
  omega

end BW.Proofs.Termination
