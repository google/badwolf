/-
Association lists as finite maps: what `get` sees after each way the stores rewrite their list of named graphs
and the query model builds its rows.
-/

namespace BW.Proofs.Assoc

variable {α β : Type} [BEq α]

/-- The look-up as `SStore.get`, `VStore.get` and `Row.get` spell it. -/
abbrev get (l : List (α × β)) (a : α) : Option β := (l.find? (·.1 == a)).map (·.2)

theorem any_key (l : List (α × β)) (a : α) : l.any (·.1 == a) = (get l a).isSome := by
  rw [Bool.eq_iff_iff, List.any_eq_true, Option.isSome_map, List.find?_isSome]

theorem get_append (l l' : List (α × β)) (a : α) : get (l ++ l') a = (get l a).or (get l' a) := by
  rw [get, List.find?_append, Option.map_or]

variable [LawfulBEq α]

theorem mem_keys (l : List (α × β)) (a : α) : a ∈ l.map (·.1) ↔ (get l a).isSome = true := by
  simp only [get, Option.isSome_map, List.find?_isSome, List.mem_map, beq_iff_eq]

variable [DecidableEq α]

theorem get_cons (p : α × β) (l : List (α × β)) (a : α) : get (p :: l) a = if p.1 = a then some p.2 else get l a := by
  unfold get
  rw [List.find?_cons]
  by_cases h : p.1 = a
  · rw [if_pos h, beq_iff_eq.mpr h]; rfl
  · rw [if_neg h, beq_eq_false_iff_ne.mpr h]

theorem get_update (l : List (α × β)) (n a : α) (f : β → β) :
    get (l.map fun p => if p.1 == n then (p.1, f p.2) else p) a = if a = n then (get l a).map f else get l a := by
  induction l with
  | nil => simp only [List.map_nil, get, List.find?_nil, Option.map_none, ite_self]
  | cons p l ih =>
    rw [List.map_cons, get_cons, get_cons, ih]
    by_cases hn : p.1 = n
    · rw [if_pos (beq_iff_eq.mpr hn)]
      by_cases ha : p.1 = a
      · rw [if_pos ha, if_pos ha, if_pos (ha.symm.trans hn)]; rfl
      · rw [if_neg ha, if_neg ha]
    · rw [if_neg (mt beq_iff_eq.mp hn)]
      by_cases ha : p.1 = a
      · rw [if_pos ha, if_pos ha, if_neg (ha ▸ hn)]
      · rw [if_neg ha, if_neg ha]

theorem get_filterKey (q : α → Bool) (l : List (α × β)) (a : α) :
    get (l.filter fun p => q p.1) a = if q a = true then get l a else none := by
  induction l with
  | nil => simp only [List.filter_nil, get, List.find?_nil, Option.map_none, ite_self]
  | cons p l ih =>
    rw [List.filter_cons]
    split
    · rename_i hq
      rw [get_cons, get_cons, ih]
      by_cases ha : p.1 = a
      · rw [if_pos ha, if_pos ha, if_pos (ha ▸ hq)]
      · rw [if_neg ha, if_neg ha]
    · rename_i hq
      rw [ih, get_cons]
      by_cases ha : p.1 = a
      · rw [if_pos ha, if_neg (ha ▸ hq), if_neg (ha ▸ hq)]
      · rw [if_neg ha]

theorem get_filter (l : List (α × β)) (n a : α) :
    get (l.filter (·.1 != n)) a = if a = n then none else get l a := by
  refine (get_filterKey (· != n) l a).trans ?_
  by_cases h : a = n
  · rw [if_pos h, if_neg (not_not_intro h ∘ bne_iff_ne.mp)]
  · rw [if_neg h, if_pos (bne_iff_ne.mpr h)]

end BW.Proofs.Assoc
