/-
The memory store refines the specification "names ↦ sets of triples": `abs` forgets the secondary indexes; one
operation, a history, two stores holding the same sets.  C01 instantiates the theorems at the regenerated facts.
-/
import BW.Proofs.Lookup

namespace BW.Proofs.StoreRefine
open BW.Model BW.Spec BW.Proofs.Store BW.Proofs.Lookup

def abs (s : Store) : SStore := s.map fun p => (p.1, p.2.master)

def StoreInv (F : Facts) (s : Store) : Prop := ∀ p ∈ s, Inv F p.2

theorem storeInv_nil (F : Facts) : StoreInv F [] := fun _ h => nomatch h

/-- Side condition of a look-up: a predicate where one is fixed, and a paging request `checker_is_page` covers.
    Trap: this is `BW.Proofs.StoreRefine.Op.ok`, and `op.ok` does not elaborate. -/
def Op.ok : Op → Prop
  | .lookup _ m a lo => argsOK m a = true ∧ (0 < lo.maxElements ∨ lo.maxElements * lo.offset ≤ 0)
  | _ => True

theorem abs_get (s : Store) (n : Bytes) : (abs s).get n = (s.get n).map (·.master) := by
  simp [abs, SStore.get, Store.get, List.find?_map, Function.comp_def]

theorem abs_names (s : Store) : (abs s).names = s.names := by
  simp [abs, SStore.names, Store.names, List.map_map, Function.comp_def]

theorem abs_update (s : Store) (n : Bytes) (f : Graph → Graph) (f' : SGraph → SGraph)
    (h : ∀ g, (f g).master = f' g.master) :
    abs (s.update n f) = (abs s).update n f' := by
  simp only [abs, Store.update, SStore.update, List.map_map]
  refine List.map_congr_left fun p _ => ?_
  simp only [Function.comp]
  split <;> simp [h]

theorem abs_filter (s : Store) (n : Bytes) : abs (s.filter (·.1 != n)) = (abs s).filter (·.1 != n) := by
  simp [abs, List.filter_map, Function.comp_def]

theorem storeInv_update {F : Facts} {s : Store} (hs : StoreInv F s) (n : Bytes) (f : Graph → Graph)
    (hf : ∀ g, Inv F g → Inv F (f g)) : StoreInv F (s.update n f) := by
  intro p hp
  obtain ⟨q, hq, rfl⟩ := List.mem_map.mp hp
  split
  · exact hf q.2 (hs _ hq)
  · exact hs _ hq

/-- `Op.ok` is asked for the answer of a look-up only: the state a step leaves does not depend on it. -/
theorem step_refines {F : Facts} (hF : Facts.WF F = true) {s : Store} (hs : StoreInv F s) (op : Op) :
    (Op.ok op → (s.step F op).2 = ((abs s).step op).2) ∧ abs (s.step F op).1 = ((abs s).step op).1 ∧
    StoreInv F (s.step F op).1 := by
  -- both steps unfolded, the specification's questions about `abs s` put to `s`
  cases op <;> simp only [Store.step, SStore.step, Store.newGraph, SStore.newGraph, Store.deleteGraph, SStore.deleteGraph,
    abs_get, abs_names, Option.isSome_map]
  case newGraph n =>
    cases (s.get n).isSome
    · exact ⟨fun _ => rfl, rfl, fun p hp => (List.mem_cons.mp hp).elim (fun e => e ▸ inv_empty F) (hs p)⟩
    · exact ⟨fun _ => rfl, rfl, hs⟩
  case deleteGraph n =>
    cases (s.get n).isSome
    · exact ⟨fun _ => rfl, rfl, hs⟩
    · exact ⟨fun _ => rfl, abs_filter s n, fun p hp => hs p (List.mem_filter.mp hp).1⟩
  case add n ts =>
    cases (s.get n).isSome
    · exact ⟨fun _ => rfl, rfl, hs⟩
    · exact ⟨fun _ => rfl, abs_update s n (·.addAll F ts) (·.addAll ts) (master_addAll hF · ts), storeInv_update hs n _ fun _ hg => inv_addAll hF hg ts⟩
  case rem n ts =>
    cases (s.get n).isSome
    · exact ⟨fun _ => rfl, rfl, hs⟩
    · exact ⟨fun _ => rfl, abs_update s n (·.remAll F ts) (·.remAll ts) (master_remAll hF · ts), storeInv_update hs n _ fun _ hg => inv_remAll hF hg ts⟩
  case exist n t => cases s.get n <;> exact ⟨fun _ => rfl, rfl, hs⟩
  case lookup n m a lo =>
    cases h : s.get n with
    | none => exact ⟨fun _ => rfl, rfl, hs⟩
    | some g =>
      obtain ⟨p, hp, rfl⟩ := Option.map_eq_some_iff.mp h
      exact ⟨fun hop => congrArg Out.elems (lookup_eq_scan hF (hs p (List.mem_of_find?_eq_some hp)) m a lo hop.1 hop.2), rfl, hs⟩
  all_goals exact ⟨fun _ => trivial, trivial, hs⟩  -- `getGraph`, `names`: the store is only asked

theorem run_refines {F : Facts} (hF : Facts.WF F = true) {s : Store} (hs : StoreInv F s) (ops : List Op) :
    ((∀ op ∈ ops, Op.ok op) → (Store.run F s ops).2 = (SStore.run (abs s) ops).2) ∧
    abs (Store.run F s ops).1 = (SStore.run (abs s) ops).1 ∧
    StoreInv F (Store.run F s ops).1 := by
  induction ops generalizing s with
  | nil => exact ⟨fun _ => rfl, rfl, hs⟩
  | cons op ops ih =>
    obtain ⟨h1, h2, h3⟩ := step_refines hF hs op
    obtain ⟨i1, i2, i3⟩ := ih h3
    simp only [Store.run, SStore.run]
    rw [← h2]
    exact ⟨fun hops => by rw [h1 (hops op List.mem_cons_self), i1 fun o ho => hops o (List.mem_cons_of_mem _ ho)], i2, i3⟩

/-- What a store answers from now on depends only on the sets it holds. -/
theorem run_out_congr {F : Facts} (hF : Facts.WF F = true) {s₁ s₂ : Store} (h₁ : StoreInv F s₁)
    (h₂ : StoreInv F s₂) (h : abs s₁ = abs s₂) (ops : List Op) (hops : ∀ op ∈ ops, Op.ok op) :
    (Store.run F s₁ ops).2 = (Store.run F s₂ ops).2 := by
  rw [(run_refines hF h₁ ops).1 hops, (run_refines hF h₂ ops).1 hops, h]

end BW.Proofs.StoreRefine
