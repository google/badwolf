/-
One row per assignment (C03): the row a determined mandatory clause binds determines the triple it matched; so, over
a scan without repeated triples, a join step with such a clause keeps pairwise different rows pairwise different.
-/
import BW.Proofs.Planner.Names
import BW.Proofs.Join
open BW.Model BW.Spec BW.Proofs.ClauseOrder BW.Proofs.Planner

namespace BW.Proofs.OnePerAssignment

/-- Every position of the clause is a constant or is shown in the row: the row determines the triple. -/
def Determined (c : Clause) : Prop :=
  (c.s.isSome ∨ c.sBinding ≠ [] ∨ c.sAlias ≠ []) ∧
  (c.p.isSome ∨ c.pBinding ≠ [] ∨ c.pAlias ≠ [] ∨ (c.pID ≠ [] ∧ (c.pAnchorBinding ≠ [] ∨ c.pAnchorAlias ≠ []))) ∧
  (c.o.isSome ∨ c.oBinding ≠ [] ∨ c.oAlias ≠ [])

theorem cellSame_both {x a b : Cell} (h : cellSame x a = true) (h' : cellSame x b = true) : normCell a = normCell b :=
  ((cellSame_iff x a).mp h).symm.trans ((cellSame_iff x b).mp h')

theorem tripleEq_of_cells {t t' : Triple} (hs : normCell (.node t.s) = normCell (.node t'.s))
    (hp : normCell (.pred t.p) = normCell (.pred t'.p)) (ho : normCell (objCell t.o) = normCell (objCell t'.o)) :
    TripleEq t t' :=
  ⟨Cell.node.inj hs, (cellSame_iff (.pred t.p) (.pred t'.p)).mpr hp, objSame_cell t.o t'.o ▸ (cellSame_iff _ _).mpr ho⟩

theorem pred_of_id_anchor {p p' : Pred} (hid : p.id = p'.id) (ha : (anchorOf p).map normCell = (anchorOf p').map normCell)
    (hs : (anchorOf p).isSome = true) : normCell (.pred p) = normCell (.pred p') := by
  cases p <;> cases p' <;> simp_all [anchorOf, normCell, normPredC, Pred.id]

/-- C03 `row_determines_the_triple`. Each part of the triple is a cell that a constant of the clause fixes or a
    named step shows in the row — in both cases up to `normCell`. -/
theorem row_determines_triple {c : Clause} (hd : Determined c) (hopt : c.optional = false) {w w' : Window}
    {t t' : Triple} {m m' : Row} (h : matchClause c w t = some m) (h' : matchClause c w' t' = some m')
    (he : RowEq m m') : TripleEq t t' := by
  obtain ⟨hs, hp, ho⟩ := hd
  obtain ⟨cs, cp, co⟩ := (constsMatch_iff c t).mp (matchClause_some h).consts
  obtain ⟨cs', cp', co'⟩ := (constsMatch_iff c t').mp (matchClause_some h').consts
  have shown : ∀ {k : Bytes} {e e' : Option Cell}, (k, e) ∈ clauseSteps c t → (k, e') ∈ clauseSteps c t' → k ≠ [] →
      ∃ x x', e = some x ∧ e' = some x' ∧ normCell x = normCell x' := by
    intro k e e' hm hm' hk
    obtain ⟨v, x, e1, g1, n1⟩ := specBind_step (matchClause_specBind h) hm hk
    obtain ⟨v', x', e1', g1', n1'⟩ := specBind_step (matchClause_specBind h') hm' hk
    have := he k
    rw [g1, g1'] at this
    simp only [Option.map_some, Option.some.injEq] at this
    exact ⟨x, x', e1, e1', by rw [← n1, this, n1']⟩
  have shown' : ∀ {k : Bytes} {x x' : Cell}, (k, some x) ∈ clauseSteps c t → (k, some x') ∈ clauseSteps c t' → k ≠ [] →
      normCell x = normCell x' := by
    intro k x x' hm hm' hk
    obtain ⟨y, y', e1, e2, n⟩ := shown hm hm' hk
    cases e1; cases e2; exact n
  refine tripleEq_of_cells ?_ ?_ ?_
  · rcases hs with hs | hs | hs
    · obtain ⟨n, hn⟩ := Option.isSome_iff_exists.mp hs
      rw [← cs n hn, ← cs' n hn]
    · exact shown' (steps_s c t).1 (steps_s c t').1 hs
    · exact shown' (steps_s c t).2 (steps_s c t').2 hs
  · rcases hp with hp | hp | hp | ⟨hid, hab⟩
    · obtain ⟨p, hpp⟩ := Option.isSome_iff_exists.mp hp
      exact cellSame_both (x := .pred p) (cp p hpp) (cp' p hpp)
    · exact shown' (steps_p c t).1 (steps_p c t').1 hp
    · exact shown' (steps_p c t).2 (steps_p c t').2 hp
    · -- `"id"@[?t]`: the identifier is the clause's, the anchor is shown
      have key : ∀ {k : Bytes}, k ≠ [] → (k, extract c.optional (anchorOf t.p)) ∈ clauseSteps c t →
          (k, extract c.optional (anchorOf t'.p)) ∈ clauseSteps c t' → normCell (.pred t.p) = normCell (.pred t'.p) := by
        intro k hk hm hm'
        obtain ⟨x, x', e1, e2, n⟩ := shown hm hm' hk
        rw [hopt, extract_false] at e1 e2
        exact pred_of_id_anchor (by rw [(matchClause_some h).pID hid, (matchClause_some h').pID hid]) (by rw [e1, e2]; simp [n])
          (by rw [e1]; rfl)
      exact hab.elim (key · (steps_pAnchor c t).1 (steps_pAnchor c t').1) (key · (steps_pAnchor c t).2 (steps_pAnchor c t').2)
  · rcases ho with ho | ho | ho
    · obtain ⟨o, hoo⟩ := Option.isSome_iff_exists.mp ho
      exact cellSame_both (objSame_cell o t.o ▸ co o hoo) (objSame_cell o t'.o ▸ co' o hoo)
    · exact shown' (steps_o c t).1 (steps_o c t').1 ho
    · exact shown' (steps_o c t).2 (steps_o c t').2 ho

theorem match_keys {c : Clause} {t t' : Triple} {m m' : Row} (h : specBind c t = some m) (h' : specBind c t' = some m')
    (k : Bytes) : m.has k = m'.has k :=
  Bool.eq_iff_iff.mpr ((specBind_has h k).trans (specBind_has h' k).symm)

theorem merged_same {c : Clause} {r m m' : Row} {t t' : Triple} (h : specBind c t = some m) (h' : specBind c t' = some m')
    (hc : compatible r m = true) (hc' : compatible r m' = true) (he : RowEq (r.merge m) (r.merge m')) : RowEq m m' := by
  intro k
  have hk := match_keys h h' k
  have e := he k
  rw [get_merge, get_merge] at e
  cases hr : r.get k with
  | none => simpa [hr] using e
  | some v =>
    cases hm : m.get k with
    | none => rw [get_none_of_not_has (hk ▸ has_of_get hm)]
    | some x =>
      obtain ⟨x', hm'⟩ := get_of_has (hk ▸ has_of_get hm)
      rw [hm', Option.map_some, Option.map_some, ← compatible_get hc hr hm, ← compatible_get hc' hr hm']

def Distinct (rows : List Row) : Prop := rows.Pairwise fun a b => ¬ RowEq a b
def ScanDistinct (scan : List Triple) : Prop := scan.Pairwise fun t t' => ¬ TripleEq t t'
def SameKeys (rows : List Row) : Prop := ∀ r ∈ rows, ∀ r' ∈ rows, ∀ k, r.has k = r'.has k

theorem merged_apart {r r' m m' : Row} (hk : ∀ k, r.has k = r'.has k) (hne : ¬ RowEq r r') : ¬ RowEq (r.merge m) (r'.merge m') := by
  intro he
  apply hne
  intro k
  have e := he k
  rw [get_merge, get_merge] at e
  cases hr : r.get k with
  | none => rw [get_none_of_not_has (hk k ▸ has_of_get hr)]
  | some v =>
    obtain ⟨v', hr'⟩ := get_of_has (hk k ▸ has_of_get hr)
    simpa [hr, hr'] using e

/-- `SameKeys` travels with `Distinct`: different rows with different key sets could merge into the same row. -/
theorem joinClause_distinct (scan : List Triple) (hs : ScanDistinct scan) (glo ghi : Option Int) (c : Clause)
    (hd : Determined c) (hopt : c.optional = false) (rows : List Row) (hr : Distinct rows) (hk : SameKeys rows) :
    Distinct (joinClause scan glo ghi rows c) ∧ SameKeys (joinClause scan glo ghi rows c) := by
  rw [BW.Proofs.Query.joinClause_by, hopt, BW.Proofs.Query.joinBy_mandatory]
  constructor
  · unfold Distinct
    rw [List.pairwise_flatMap]
    constructor
    · intro r _
      rw [List.pairwise_map]
      have base : (scan.filterMap (matchClause c (clauseWindow glo ghi c r))).Pairwise
          (fun m m' => compatible r m = true → compatible r m' = true → ¬ RowEq (r.merge m) (r.merge m')) := by
        rw [List.pairwise_filterMap]
        apply hs.imp
        intro t t' hne m hm m' hm' hc hc' he
        exact hne (row_determines_triple hd hopt hm hm'
          (merged_same (matchClause_specBind hm) (matchClause_specBind hm') hc hc' he))
      exact (base.filter (compatible r)).imp_of_mem fun {a b} ha hb h =>
        h (List.mem_filter.mp ha).2 (List.mem_filter.mp hb).2
    · refine List.Pairwise.imp_of_mem (fun {r r'} hrm hrm' hne x hx y hy => ?_) hr
      obtain ⟨m, _, rfl⟩ := List.mem_map.mp hx
      obtain ⟨m', _, rfl⟩ := List.mem_map.mp hy
      exact merged_apart (hk r hrm r' hrm') hne
  · intro x hx y hy k
    obtain ⟨r, hrm, hx⟩ := List.mem_flatMap.mp hx
    obtain ⟨r', hrm', hy⟩ := List.mem_flatMap.mp hy
    obtain ⟨m, hm, rfl⟩ := List.mem_map.mp hx
    obtain ⟨m', hm', rfl⟩ := List.mem_map.mp hy
    obtain ⟨t, _, hmt⟩ := List.mem_filterMap.mp (List.mem_filter.mp hm).1
    obtain ⟨t', _, hmt'⟩ := List.mem_filterMap.mp (List.mem_filter.mp hm').1
    rw [has_merge, has_merge, hk r hrm r' hrm' k, match_keys (matchClause_specBind hmt) (matchClause_specBind hmt') k]

end BW.Proofs.OnePerAssignment
