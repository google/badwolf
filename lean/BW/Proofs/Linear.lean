/-
The two facts about `BW.Model.Linear` that C07 states: the search over a recorded history answers yes only if the
history has a linearization; among threads that hold one lock at a time, whoever waits waits for one that does not.
-/
import BW.Model.Linear

namespace BW.Proofs.Linear
open BW.Model.Linear

theorem search_sound : ∀ (f : Nat) (s : State) (pending : List HOp), search f s pending = true → Lin s pending := by
  intro f s pending h
  fun_induction search f s pending with
  | case1 => exact Lin.done _  -- nothing pending
  | case2 => cases h  -- out of fuel
  | case3 f s pending _ ih =>  -- a minimal call goes first
    simp only [List.any_eq_true, Bool.and_eq_true, beq_iff_eq] at h
    obtain ⟨o, hm, ⟨hmin, hres⟩, hrest⟩ := h
    exact Lin.pick s _ o hm hmin hres (ih o hrest)

/-- If anybody waits, some unfinished thread holds what it waits for and is itself not waiting: it can run on and
    release. -/
theorem no_lock_cycle (ts : List ThreadL) (hn : ∀ t ∈ ts, nonNested t) (hw : waitsForHeld ts)
    (t : ThreadL) (ht : t ∈ ts) (l : Nat) (hl : t.waiting = some l) :
    ∃ h ∈ ts, h.finished = false ∧ h.waiting = none := by
  obtain ⟨h, hh, hhold, hfin⟩ := hw t ht l hl
  exact ⟨h, hh, hfin, hn h hh (by simp [hhold])⟩

end BW.Proofs.Linear
