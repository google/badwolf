/-
ORDER BY lists with repeated keys (C12): `orderByBindingsChecker` keeps the first occurrence of each key; comparing
two rows by the rewritten list is comparing them by the list as written, hence the same sort.
-/
import BW.Model.Hooks
import BW.Proofs.QueryPost
open BW.Model

namespace BW.Proofs.HooksOrder
open BW.Model.Hooks BW.Proofs.QueryPost

/-- A key that was already compared (same key, same direction) cannot decide any more. -/
theorem compareRows_dup (S : Strs) (pre : List (Bytes × Bool)) (k : Bytes) (d : Bool) (post : List (Bytes × Bool))
    (hk : (k, d) ∈ pre) (a b : Row) :
    compareRows S (pre ++ (k, d) :: post) a b = compareRows S (pre ++ post) a b := by
  obtain ⟨l, m, rfl⟩ := List.append_of_mem hk
  simp only [compareRows_append, compareRows_cons]
  cases keyOrd S k d a b <;> simp only [Ordering.eq_then, Ordering.lt_then, Ordering.gt_then, Ordering.then_assoc]

/-- `acc`: the keys kept so far. A key of `rest` that `acc` holds has, by `consistent`, the direction it has there,
    so `compareRows_dup` skips it. -/
theorem compareRows_dedupCfg (S : Strs) (a b : Row) (rest acc : List (Bytes × Bool)) (hc : consistent acc rest = true) :
    compareRows S (acc ++ rest) a b = compareRows S (dedupCfg acc rest) a b := by
  fun_induction consistent acc rest with
  | case1 acc => rw [List.append_nil, dedupCfg]
  | case2 acc k d rest k' d' hf ih =>
    simp only [Bool.and_eq_true, beq_iff_eq] at hc
    have hmem := List.mem_of_find?_eq_some hf
    have hk : k' = k := by simpa using List.find?_some hf
    rw [dedupCfg, if_pos (List.any_eq_true.mpr ⟨_, hmem, List.find?_some hf⟩),
      compareRows_dup S acc k d rest (by rw [← hk, ← hc.1]; exact hmem)]
    exact ih hc.2
  | case3 acc k d rest hf ih =>
    rw [dedupCfg, if_neg (Bool.not_eq_true _ ▸ List.any_eq_false.mpr (List.find?_eq_none.mp hf)), ← ih hc,
      List.append_assoc]
    rfl

theorem orderCheck_some {cfg cfg' : List (Bytes × Bool)} (h : orderCheck cfg = some cfg') :
    consistent [] cfg = true ∧ dedupCfg [] cfg = cfg' := by
  unfold orderCheck at h
  split at h
  · exact ⟨‹_›, Option.some.inj h⟩
  · cases h

end BW.Proofs.HooksOrder
