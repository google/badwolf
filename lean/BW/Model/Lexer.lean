/-
Model of `bql/lexer/lexer.go` as a pure function from a list of classified runes to the list of
emitted tokens (the channel/goroutine protocol is C08's).

The Go lexer is a state machine over (input, start, pos, width, lastTokenType).  At a token boundary its
future depends only on (lastTokenType, pending junk already consumed since `start`, remaining input);
the model is written in that "peek" style: every sub-lexer maps the remaining runes to the consumed
token text and the new remainder, so `input = consumed ++ rest` holds by construction.

Runes arrive classified by Go's own `unicode` package (letter/digit/space, ToLower, the smallest member
of the simple-fold orbit used by `strings.EqualFold`): the harness supplies them, the model never
re-implements Unicode tables.
-/
import BW.Model.Store

namespace BW.Model

structure Rune where
  cp : Nat                 -- code point (0xFFFD with the single raw byte for invalid UTF-8)
  bytes : Bytes
  letter : Bool
  digit : Bool
  space : Bool
  lower : Nat              -- unicode.ToLower
  fold : Nat               -- least code point of the SimpleFold orbit
  deriving DecidableEq, Repr

structure LexTables (K : Type) where
  keywords : List (List Nat × K)
  singles : List (Nat × K)
  litTypes : List (List Nat)
  tError : K
  tEOF : K
  tBinding : K
  tNode : K
  tBlank : K
  tLiteral : K
  tPredicate : K
  tPredBound : K
  tTime : K
  tFilterFn : K
  tFilter : K
  globalTimeAfter : List K
  localTimeAfter : List K

/-- Result of one sub-lexer: a token (kind, text, remainder) or the terminal error (text). -/
inductive LStep (K : Type) where
  | tok (k : K) (text : List Rune) (rest : List Rune)
  | err (text : List Rune)

section
variable {K : Type} [DecidableEq K]

theorem dropWhile_length_le {α : Type} (p : α → Bool) (l : List α) : (l.dropWhile p).length ≤ l.length :=
  (List.dropWhile_suffix p).length_le

def isNameRune (r : Rune) : Bool := r.letter || r.digit || r.cp == 95

/-- Fold representative of an ASCII keyword character (the keywords are lower-case ASCII). -/
def foldAscii (c : Nat) : Nat := if 97 ≤ c ∧ c ≤ 122 then c - 32 else c

/-- `strings.EqualFold(word, keyword)`. -/
def equalFold : List Rune → List Nat → Bool
  | [], [] => true
  | r :: rs, c :: cs => (r.cp == c || r.fold == foldAscii c) && equalFold rs cs
  | _, _ => false

def lexBinding (T : LexTables K) : List Rune → LStep K
  | [] => .err []
  | q :: t => .tok T.tBinding (q :: t.takeWhile isNameRune) (t.dropWhile isNameRune)

def findKeyword (word : List Rune) : List (List Nat × K) → Option K
  | [] => none
  | (kw, k) :: rest => if equalFold word kw then some k else findKeyword word rest

def lexKeyword (T : LexTables K) (rest : List Rune) : LStep K :=
  let word := rest.takeWhile (·.letter)
  match findKeyword word T.keywords with
  | some k => .tok k word (rest.dropWhile (·.letter))
  | none => .err (rest.takeWhile (fun r => !r.space))

def lexFilterFunction (T : LexTables K) : List Rune → LStep K
  | [] => .err []
  | r :: t =>
    let name := r :: t.takeWhile (·.letter)
    match t.dropWhile (·.letter) with
    | [] => .err name
    | n :: after => if n.cp == 40 then .tok T.tFilterFn name (n :: after) else .err (name ++ [n])

/-- The scanning loop of lexNode. `acc` is the consumed text in reverse. -/
def lexNodeGo (T : LexTables K) : List Rune → List Rune → Bool → LStep K
  | acc, [], _ => .err acc.reverse
  | acc, r :: t, lt =>
    if r.cp == 92 then
      match t with
      | n :: t' => if n.cp == 60 then lexNodeGo T (n :: r :: acc) t' lt else lexNodeGo T (r :: acc) (n :: t') lt
      | [] => lexNodeGo T (r :: acc) [] lt
    else if r.cp == 60 then lexNodeGo T (r :: acc) t true
    else if r.cp == 62 then
      (if lt then .tok T.tNode (r :: acc).reverse t else .err (r :: acc).reverse)
    else lexNodeGo T (r :: acc) t lt
termination_by _ rest _ => rest.length

def lexNode (T : LexTables K) (rest : List Rune) : LStep K := lexNodeGo T [] rest false

def lexBlankNode (T : LexTables K) : List Rune → LStep K
  | [] => .err []
  | u :: t =>
    match t with
    | [] => .err [u]
    | c :: t1 =>
      if c.cp != 58 then .err [u, c] else
      match t1 with
      | [] => .err [u, c]
      | l :: t2 =>
        if !l.letter then .err [u, c, l]
        else .tok T.tBlank (u :: c :: l :: t2.takeWhile isNameRune) (t2.dropWhile isNameRune)

def isPrefixB : Bytes → Bytes → Bool
  | [], _ => true
  | _ :: _, [] => false
  | a :: as, b :: bs => a == b && isPrefixB as bs

/-- `strings.Index` on bytes. -/
def indexOf (pat : Bytes) : Bytes → Nat → Option Nat
  | [], i => if pat.isEmpty then some i else none
  | b :: bs, i => if isPrefixB pat (b :: bs) then some i else indexOf pat bs (i + 1)

def anchorPat : Bytes := [34, 64, 91]                       -- "@[
def litTypePat : Bytes := [34, 94, 94, 116, 121, 112, 101, 58]   -- "^^type:

/-- `lexer.consume(text)`: accept runes whose ToLower equals the (ASCII) pattern's ToLower.
    Returns the consumed runes (reversed onto acc) and the remainder, or the state at the failure. -/
def asciiLower (c : Nat) : Nat := if 65 ≤ c ∧ c ≤ 90 then c + 32 else c

def consumePat : List Nat → List Rune → List Rune → (Bool × List Rune × List Rune)
  | [], acc, rest => (true, acc, rest)
  | _ :: _, acc, [] => (false, acc, [])
  | c :: cs, acc, r :: t =>
    if r.lower == asciiLower c then consumePat cs (r :: acc) t
    else (false, acc, r :: t)

/-- After `"@[`: scan to `]` counting commas. -/
def predTail (T : LexTables K) : List Rune → List Rune → Nat → LStep K
  | acc, [], _ => .err acc.reverse
  | acc, r :: t, commas =>
    let commas := if r.cp == 44 then commas + 1 else commas
    if r.cp == 93 then
      (if commas > 1 then .err (r :: acc).reverse
       else .tok (if commas == 0 then T.tPredicate else T.tPredBound) (r :: acc).reverse t)
    else predTail T (r :: acc) t commas

def lexPredicateGo (T : LexTables K) : List Rune → List Rune → LStep K
  | acc, [] => .err acc.reverse
  | acc, r :: t =>
    if r.cp == 92 then
      match t with
      | n :: t' =>
        -- a backslash escapes a following quote or backslash (the ID is printed with %q)
        if n.cp == 34 || n.cp == 92 then lexPredicateGo T (n :: r :: acc) t' else lexPredicateGo T (r :: acc) (n :: t')
      | [] => lexPredicateGo T (r :: acc) []
    else if r.cp == 34 then
      match consumePat [34, 64, 91] acc (r :: t) with
      | (true, acc', rest') => predTail T acc' rest' 0
      | (false, acc', _) => .err acc'.reverse
    else lexPredicateGo T (r :: acc) t
termination_by _ rest => rest.length

def lexPredicate (T : LexTables K) : List Rune → LStep K
  | [] => .err []
  | q :: t => lexPredicateGo T [q] t

def lowerCps (rs : List Rune) : List Nat := rs.map (·.lower)

def lexLiteralGo (T : LexTables K) : List Rune → List Rune → LStep K
  | acc, [] => .err acc.reverse
  | acc, r :: t =>
    if r.cp == 92 then
      match t with
      | n :: t' => if n.cp == 34 then lexLiteralGo T (n :: r :: acc) t' else lexLiteralGo T (r :: acc) (n :: t')
      | [] => lexLiteralGo T (r :: acc) []
    else if r.cp == 34 then
      match consumePat [34, 94, 94, 116, 121, 112, 101, 58] acc (r :: t) with
      | (true, acc', rest') =>
        let ty := rest'.takeWhile (fun x => x.letter || x.digit)
        let after := rest'.dropWhile (fun x => x.letter || x.digit)
        if T.litTypes.contains (lowerCps ty) then .tok T.tLiteral (acc'.reverse ++ ty) after
        else match after with
          | [] => .err (acc'.reverse ++ ty)
          | x :: _ => .err (acc'.reverse ++ ty ++ [x])
      | (false, acc', _) => .err acc'.reverse
    else lexLiteralGo T (r :: acc) t
termination_by _ rest => rest.length

def lexLiteral (T : LexTables K) : List Rune → LStep K
  | [] => .err []
  | q :: t => lexLiteralGo T [q] t

def runesBytes (rs : List Rune) : Bytes := rs.flatMap (·.bytes)

def lexPredicateOrLiteral (T : LexTables K) (rest : List Rune) : LStep K :=
  -- the delimiters are looked for after the opening quote (text[1:])
  let bs := (runesBytes rest).drop 1
  let pIdx := indexOf anchorPat bs 0
  let lIdx := indexOf litTypePat bs 0
  match pIdx, lIdx with
  | none, none => .err []
  | some _, none => lexPredicate T rest
  | some p, some l => if p < l then lexPredicate T rest else lexLiteral T rest
  | none, some _ => lexLiteral T rest

/-- lexPredicateGlobalTime after its first rune. -/
def globalTimeGo (T : LexTables K) : List Rune → List Rune → Nat → LStep K
  | acc, [], commas => .tok (if commas == 0 then T.tTime else T.tPredBound) acc.reverse []
  | acc, r :: t, commas =>
    if r.cp == 44 then
      (if commas > 0 then .err (r :: acc).reverse
       else
         -- "you could have several spaces after a comma"
         globalTimeGo T ((t.takeWhile (·.space)).reverse ++ (r :: acc)) (t.dropWhile (·.space)) (commas + 1))
    else if r.cp == 59 then .tok (if commas == 0 then T.tTime else T.tPredBound) acc.reverse (r :: t)
    else if r.space then .tok (if commas == 0 then T.tTime else T.tPredBound) (r :: acc).reverse t
    else globalTimeGo T (r :: acc) t commas
termination_by _ rest _ => rest.length
decreasing_by
  all_goals simp_wf
  all_goals (have := dropWhile_length_le (fun x : Rune => x.space) t; omega)

def lexGlobalTime (T : LexTables K) : List Rune → LStep K
  | [] => .err []
  | d :: t => globalTimeGo T [d] t 0

def localTimeGo (T : LexTables K) : List Rune → List Rune → LStep K
  | acc, [] => .tok T.tTime acc.reverse []
  | acc, r :: t =>
    if r.cp == 59 || r.cp == 41 then .tok T.tTime acc.reverse (r :: t)
    else if r.space then .tok T.tTime (r :: acc).reverse t
    else localTimeGo T (r :: acc) t

def lexLocalTime (T : LexTables K) : List Rune → LStep K
  | [] => .err []
  | d :: t => localTimeGo T [d] t

def lookupSingle (cp : Nat) : List (Nat × K) → Option K
  | [] => none
  | (c, k) :: rest => if c == cp then some k else lookupSingle cp rest

/-- What lexToken dispatches to for the rune at the token boundary (`none`: junk/space path). -/
def dispatch (T : LexTables K) (last : K) (r : Rune) (rest : List Rune) : Option (LStep K) :=
  if r.digit && T.globalTimeAfter.contains last then some (lexGlobalTime T rest)
  else if r.digit && T.localTimeAfter.contains last then some (lexLocalTime T rest)
  else if r.cp == 63 then some (lexBinding T rest)
  else if r.cp == 47 then some (lexNode T rest)
  else if r.cp == 95 then some (lexBlankNode T rest)
  else if r.cp == 34 then some (lexPredicateOrLiteral T rest)
  else if r.letter then some (if last == T.tFilter then lexFilterFunction T rest else lexKeyword T rest)
  else match lookupSingle r.cp T.singles with
    | some k => some (.tok k [r] (rest.drop 1))
    | none => none

/-- The lexer's main loop. `pending`: junk runes consumed since `start` (glued to the next text). -/
def lexLoop (T : LexTables K) : Nat → K → List Rune → List Rune → List (K × List Rune)
  | 0, _, _, _ => []
  | _ + 1, _, pending, [] => [(T.tEOF, pending)]
  | f + 1, last, pending, r :: t =>
    match dispatch T last r (r :: t) with
    | some (.tok k text rest') => (k, pending ++ text) :: lexLoop T f k [] (rest'.dropWhile (·.space))
    | some (.err text) => [(T.tError, pending ++ text)]
    | none =>
      if r.space then lexLoop T f last [] t
      else match t with
        | [] => [(T.tEOF, pending ++ [r])]
        | r2 :: t2 => lexLoop T f last (pending ++ [r, r2]) t2

def lex (T : LexTables K) (input : List Rune) : List (K × List Rune) :=
  lexLoop T (input.length + 1) T.tError [] input

end

end BW.Model
